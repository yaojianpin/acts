import ActsModel.Model.Retention
import ActsModel.Gen.Misc
import ActsModel.Model.Admit
import ActsModel.Props.C20

/-!
# C17 — Retention: finished processes leave exactly what the configuration says
-/
namespace Acts.C17
open Acts.Gen Acts.Ret

theorem mem_tasks_removeProc {s : St} {p : String} {t : TaskRow} :
    t ∈ (removeProc s p).tasks ↔ t ∈ s.tasks ∧ t.pid ≠ p := by
  simp [removeProc]

theorem mem_procs_removeProc {s : St} {p q : String} : q ∈ (removeProc s p).procs ↔ q ∈ s.procs ∧ q ≠ p := by
  simp [removeProc]

/-- **removal is exact**: after `removeProc p` no task row and no process row of `p` is left, every row of another process
is still there, and no message record is touched -/
theorem remove_exact (s : St) (p : String) :
    (∀ t ∈ (removeProc s p).tasks, t.pid ≠ p ∧ t ∈ s.tasks) ∧ (∀ t ∈ s.tasks, t.pid ≠ p → t ∈ (removeProc s p).tasks) ∧
    (p ∉ (removeProc s p).procs) ∧ (∀ q ∈ s.procs, q ≠ p → q ∈ (removeProc s p).procs) ∧
    (removeProc s p).messages = s.messages :=
  ⟨fun _ h => (mem_tasks_removeProc.mp h).symm, fun _ h hne => mem_tasks_removeProc.mpr ⟨h, hne⟩,
    fun h => (mem_procs_removeProc.mp h).2 rfl, fun _ h hne => mem_procs_removeProc.mpr ⟨h, hne⟩, rfl⟩

/-- K1 + model: with the default configuration the terminal event removes the process, with `keep_processes` nothing is deleted -/
theorem retention_rule (s : St) (p : String) :
    onTerminal false s p = removeProc s p ∧ onTerminal true s p = s ∧ Acts.Gen.Config.default_keep_processes = false :=
  ⟨rfl, rfl, rfl⟩

/-- removing one process and then another commutes and never resurrects rows: the order in which interleaved processes end
does not matter for what is left -/
theorem remove_comm (s : St) (p q : String) : removeProc (removeProc s p) q = removeProc (removeProc s q) p := by
  simp only [removeProc, List.filter_filter, Bool.and_comm]

/-- **every further action on a removed process is refused** (admission: the process lookup comes first) -/
theorem after_remove_refused (a : EventAction) (t : Acts.Admit.Target) (h : t.procLive = false) :
    Acts.Admit.admission a t = some .noProcess := by
  simp [Acts.Admit.admission, h]

/-- deleting a model removes exactly its registered start events (from C20's deploy bookkeeping) -/
theorem rm_model_exact (s : Acts.Deploy.St) (id : String) :
    (∀ e ∈ (Acts.Deploy.rm s id).events, e.mid ≠ id ∧ e ∈ s.events) ∧ (∀ e ∈ s.events, e.mid ≠ id → e ∈ (Acts.Deploy.rm s id).events) :=
  ⟨(Acts.C20.rm_exact s id).1, (Acts.C20.rm_exact s id).2.1⟩

-- ------------------------------------------------------------------ histories

/-- what happens to the rows over the life of an engine: a process is started, one of its tasks is written, it ends -/
inductive Ev where
  | start (p : String)
  | task (p : String) (tid : String)
  | terminal (p : String)
  deriving Repr

/-- a start is refused for a pid that has a row (C13); a task row is written only for a process that has its row (`Runtime::push` of a
process that is gone writes nothing); the end of a process applies the retention rule -/
def step (keep : Bool) (s : St) : Ev → St
  | .start p => if s.procs.contains p then s else { s with procs := p :: s.procs }
  | .task p tid => if s.procs.contains p then { s with tasks := ⟨p ++ ":" ++ tid, p⟩ :: s.tasks } else s
  | .terminal p => onTerminal keep s p

def run (keep : Bool) (s : St) (es : List Ev) : St := es.foldl (step keep) s

/-- no task row without its process row -/
def NoOrphans (s : St) : Prop := ∀ t ∈ s.tasks, t.pid ∈ s.procs

theorem step_no_orphans (keep : Bool) (s : St) (e : Ev) (h : NoOrphans s) : NoOrphans (step keep s e) := by
  cases e with
  | start p =>
    rw [step]; split
    · exact h
    · exact fun t ht => List.mem_cons_of_mem _ (h t ht)
  | task p tid =>
    rw [step]; split
    · next hp => exact List.forall_mem_cons.mpr ⟨List.contains_iff_mem.mp hp, h⟩
    · exact h
  | terminal p =>
    rw [step, onTerminal]; split
    · exact fun t ht => have ⟨h1, h2⟩ := mem_tasks_removeProc.mp ht; mem_procs_removeProc.mpr ⟨h t h1, h2⟩
    · exact h

/-- **Retention over histories** (K3: every sequence of starts, task writes and endings, both settings): the store never holds a task row
whose process row is gone — whatever the order in which interleaved processes end -/
theorem run_no_orphans (keep : Bool) (s : St) (es : List Ev) (h : NoOrphans s) : NoOrphans (run keep s es) :=
  List.foldlRecOn es (step keep) h fun s hs e _ => step_no_orphans keep s e hs

/-- with the default configuration a process that has ended and was not started again has no row left -/
theorem ended_leaves_nothing (s : St) (p : String) :
    p ∉ (step false s (.terminal p)).procs ∧ ∀ t ∈ (step false s (.terminal p)).tasks, t.pid ≠ p :=
  ⟨(remove_exact s p).2.2.1, fun t ht => ((remove_exact s p).1 t ht).1⟩

/-- with `keep_processes` no event ever deletes a row -/
theorem keep_is_monotone (s : St) (e : Ev) : (∀ q ∈ s.procs, q ∈ (step true s e).procs) ∧ (∀ t ∈ s.tasks, t ∈ (step true s e).tasks) := by
  cases e with
  | start p =>
    rw [step]; split
    · exact ⟨fun _ h => h, fun _ h => h⟩
    · exact ⟨fun _ h => List.mem_cons_of_mem _ h, fun _ h => h⟩
  | task p tid =>
    rw [step]; split
    · exact ⟨fun _ h => h, fun _ h => List.mem_cons_of_mem _ h⟩
    · exact ⟨fun _ h => h, fun _ h => h⟩
  | terminal p => exact ⟨fun _ h => h, fun _ h => h⟩

example : (run false ⟨[], [], []⟩ [.start "p1", .task "p1" "$", .start "p2", .task "p2" "$", .terminal "p1", .task "p1" "late"]).tasks = [⟨"p2:$", "p2"⟩] := by decide

/-- the run-time monitor is the theorem's predicate: whenever `retentionCheck` accepts a store, the store has no orphan rows … -/
theorem check_implies_no_orphans (keep : Bool) (finished : List String) (s : St) (h : retentionCheck keep finished s = none) : NoOrphans s := by
  unfold retentionCheck at h
  split at h
  · cases h
  · next hnone => exact fun t ht => by simpa using List.find?_eq_none.1 hnone t ht

/-- … and, with the default configuration, nothing of a finished process -/
theorem check_implies_nothing_left (finished : List String) (s : St) (h : retentionCheck false finished s = none) :
    ∀ p ∈ finished, p ∉ s.procs ∧ ∀ t ∈ s.tasks, t.pid ≠ p := by
  unfold retentionCheck at h
  split at h
  · cases h
  · rw [if_pos (show removeOnTerminal false = true from rfl)] at h
    split at h
    · cases h
    · next hnone =>
      intro p hp
      simpa only [Bool.or_eq_true, List.contains_eq_mem, decide_eq_true_eq, List.any_eq_true, beq_iff_eq, not_or, not_exists,
        not_and] using List.find?_eq_none.1 hnone p hp

/-- non-vacuity -/
example : (removeProc ⟨["p1", "p2"], [⟨"p1:$", "p1"⟩, ⟨"p2:$", "p2"⟩, ⟨"p1:a", "p1"⟩], [("m1", "p1")]⟩ "p1").tasks = [⟨"p2:$", "p2"⟩] := by decide

/-- **kept rows are in terminal states** (every row set): when the check on the kept rows passes, every task row of every settled process
is in a terminal state -/
theorem check_implies_kept_rows_terminal (settled : List String) (rows : List (String × Bool)) (h : keptRowsCheck settled rows = none) :
    ∀ r ∈ rows, r.1 ∈ settled → r.2 = true := by
  intro r hr hs
  rw [keptRowsCheck, Option.map_eq_none_iff, List.find?_eq_none] at h
  simpa [hs] using h r hr

/-- non-vacuity: an aborted, kept process one of whose acts was left waiting is found -/
example : keptRowsCheck ["p0"] [("p0", true), ("p0", false), ("p1", false)] = some "p0" ∧ keptRowsCheck ["p0"] [("p0", true), ("p1", false)] = none := by decide

end Acts.C17
