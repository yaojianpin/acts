import ActsModel.Model.Catch

/-!
# C06 — Errors propagate upward unless a matching catch takes them, exactly once
-/
namespace Acts.C06
open Acts.Gen Acts.Catch

/-- **the first matching catch wins**: `select` returns a catch that takes the code, and no earlier catch of the list does -/
theorem first_match (cs : List (Option String)) (code : String) (on : Option String) (h : select cs code = some on) :
    takes on code = true ∧ ∃ pre post, cs = pre ++ on :: post ∧ ∀ o ∈ pre, takes o code = false := by
  simpa using List.find?_eq_some_iff_append.mp h

/-- **a non-matching catch changes nothing**: if no catch of a task takes the code the task behaves as if it had none -/
theorem nonmatching_noop (cs : List (Option String)) (code : String) (h : ∀ o ∈ cs, takes o code = false) : select cs code = none := by
  simpa [select] using h

/-- a catch-all takes every code; a coded catch exactly its code -/
theorem takes_iff (on : Option String) (code : String) : takes on code = true ↔ on = none ∨ on = some code := by
  cases on <;> simp [takes]

/-- the member passes the error on: it is open, and has used its catch or declares none that takes the code -/
def Passes (code : String) (m : Member) : Prop :=
  m.closed = false ∧ (m.processed = true ∨ select m.catches code = none)

/-- the chain that is left ends the climb with this outcome: it is empty, or its first member is closed, or its first member
is open and its unused catch takes the code -/
inductive Ends (code : String) : List Member → Outcome → Prop
  | top : Ends code [] .uncaught
  | closed {m ms} : m.closed = true → Ends code (m :: ms) (.stoppedAt m.tid)
  | caught {m ms on} : m.closed = false → m.processed = false → select m.catches code = some on →
      Ends code (m :: ms) (.caughtAt m.tid on)

theorem bubble_cons_pass {code : String} {m : Member} (ms : List Member) (h : Passes code m) :
    bubble code (m :: ms) = (m.tid :: (bubble code ms).1, (bubble code ms).2) := by
  obtain ⟨hc, hp | hs⟩ := h <;> simp [bubble, *]

theorem bubble_of_ends {code : String} {ms : List Member} {out : Outcome} (h : Ends code ms out) : bubble code ms = ([], out) := by
  cases h <;> simp [bubble, *]

theorem passes_or_ends (code : String) (m : Member) (ms : List Member) : Passes code m ∨ ∃ out, Ends code (m :: ms) out := by
  cases hc : m.closed
  · cases hp : m.processed
    · cases hs : select m.catches code
      · exact .inl ⟨hc, .inr hs⟩
      · exact .inr ⟨_, .caught hc hp hs⟩
    · exact .inl ⟨hc, .inl hp⟩
  · exact .inr ⟨_, .closed hc⟩

/-- `bubble` climbs past the members that pass the error on and ends at the first that does not: the chain splits there,
the members below are the ones marked, the rest decides the outcome -/
theorem bubble_split {code : String} {ms : List Member} {errs : List Nat} {out : Outcome} (h : bubble code ms = (errs, out)) :
    ∃ pre rest, ms = pre ++ rest ∧ errs = pre.map (·.tid) ∧ (∀ x ∈ pre, Passes code x) ∧ Ends code rest out := by
  induction ms generalizing errs with
  | nil => cases h; exact ⟨[], [], rfl, rfl, nofun, .top⟩
  | cons m ms ih =>
    rcases passes_or_ends code m ms with hp | ⟨o, he⟩
    · rw [bubble_cons_pass ms hp] at h; cases h
      obtain ⟨pre, rest, rfl, he, hpre, hend⟩ := ih rfl
      exact ⟨m :: pre, rest, rfl, by simp [he], by simpa [hp] using hpre, hend⟩
    · rw [bubble_of_ends he] at h; cases h
      exact ⟨[], m :: ms, rfl, rfl, nofun, he⟩

/-- **propagation**: the error is taken by the *nearest* open member that has an unused matching catch; every member below it
is marked with the error; no member above it is touched -/
theorem bubble_caught (code : String) (ms : List Member) (tid : Nat) (on : Option String) (errs : List Nat)
    (h : bubble code ms = (errs, .caughtAt tid on)) :
    ∃ pre m post, ms = pre ++ m :: post ∧ m.tid = tid ∧ errs = pre.map (·.tid) ∧
      m.closed = false ∧ m.processed = false ∧ select m.catches code = some on ∧
      ∀ x ∈ pre, x.closed = false ∧ (x.processed = true ∨ select x.catches code = none) := by
  obtain ⟨pre, rest, hms, herrs, hpre, hend⟩ := bubble_split h
  cases hend with
  | caught hc hp hs => exact ⟨pre, _, _, hms, rfl, herrs, hc, hp, hs, hpre⟩

/-- **uncaught**: when no member can take it, every member is marked (and the root reports the error) -/
theorem bubble_uncaught (code : String) (ms : List Member) (errs : List Nat) (h : bubble code ms = (errs, .uncaught)) :
    errs = ms.map (·.tid) ∧ ∀ x ∈ ms, x.closed = false ∧ (x.processed = true ∨ select x.catches code = none) := by
  obtain ⟨pre, rest, hms, herrs, hpre, hend⟩ := bubble_split h
  cases hend
  rw [hms, List.append_nil]
  exact ⟨herrs, hpre⟩

/-- **exactly once**: a task that has used its catch does not catch again — a second error passes through it -/
theorem catch_once (code : String) (m : Member) (ms : List Member) (hp : m.processed = true) (hc : m.closed = false) :
    bubble code (m :: ms) = (m.tid :: (bubble code ms).1, (bubble code ms).2) :=
  bubble_cons_pass ms ⟨hc, .inl hp⟩

/-- K1 (`on_task` emit predicate): a task revived by its own catch is `running` when the predicate is evaluated, so its
error is never reported to the client; an uncaught `error` is -/
theorem caught_error_silent : ∀ disabled, emitPred .running disabled = false ∧ emitPred .error false = true := by decide

/-- K1: the catch hook is fired for the state `error` and for no other state -/
theorem catch_fires_on_error (s : TaskState) : ownLifeCycle s = some .errorCatch ↔ s = .error := by
  cases s <;> decide

/-- non-vacuity: nested catches, the inner one does not match, the outer catch-all takes the error -/
example : bubble "e2" [⟨3, [], false, false⟩, ⟨2, [some "e1"], false, false⟩, ⟨1, [some "e3", none], false, false⟩, ⟨0, [], false, false⟩]
    = ([3, 2], .caughtAt 1 none) := by decide

/-! ## Histories: any number of errors, raised anywhere, in any order (K3) -/

/-- `raise` without its case split: the outcome is `bubble`'s, the members the error passed are closed, a catcher is flagged -/
theorem raise_eq {h : Hist} {code : String} {chain : List Decl} {errs : List Nat} {out : Outcome} :
    bubble code (chain.map (member h)) = (errs, out) →
    raise h code chain =
      (⟨(match out with | .caughtAt tid _ => [tid] | _ => []) ++ h.processed, errs ++ h.closed⟩, out) := by
  intro hb; unfold raise; rw [hb]; cases out <;> rfl

/-- an error that task `tid` catches finds it unflagged and open, is taken by the first matching catch declared on it,
and leaves it flagged -/
theorem raise_caught_fresh (h : Hist) (code : String) (chain : List Decl) (tid : Nat) (on : Option String)
    (hr : (raise h code chain).2 = .caughtAt tid on) :
    tid ∉ h.processed ∧ tid ∉ h.closed ∧ tid ∈ (raise h code chain).1.processed ∧
      ∃ d ∈ chain, d.1 = tid ∧ select d.2 code = some on := by
  cases hb : bubble code (chain.map (member h)) with | mk errs out
  rw [raise_eq hb] at hr ⊢
  cases hr
  obtain ⟨pre, m, post, hms, rfl, -, hc, hp, hs, -⟩ := bubble_caught code _ _ _ _ hb
  obtain ⟨d, hd, rfl⟩ := List.mem_map.mp (show m ∈ chain.map (member h) by simp [hms])
  exact ⟨by simpa [member] using hp, by simpa [member] using hc, by simp, d, hd, rfl, hs⟩

/-- the flags only grow -/
theorem raise_flags_mono (h : Hist) (code : String) (chain : List Decl) :
    (∀ t ∈ h.processed, t ∈ (raise h code chain).1.processed) ∧ (∀ t ∈ h.closed, t ∈ (raise h code chain).1.closed) := by
  cases hb : bubble code (chain.map (member h)) with | mk errs out
  rw [raise_eq hb]
  exact ⟨fun _ => List.mem_append_right _, fun _ => List.mem_append_right _⟩

theorem isCaughtBy_iff (tid : Nat) (o : Outcome) : o.isCaughtBy tid = true ↔ ∃ on, o = .caughtAt tid on := by
  cases o <;> simp [Outcome.isCaughtBy]

/-- **exactly once, over every history**: whatever errors are raised, on whatever chains and in whatever order, a task takes an
error with its catch at most once; a task that has already done so, or that an error has passed through, never does -/
theorem caught_at_most_once (evs : List (String × List Decl)) (h : Hist) (tid : Nat) :
    ((run h evs).filter (Outcome.isCaughtBy tid)).length ≤ 1 ∧
    ((tid ∈ h.processed ∨ tid ∈ h.closed) → ((run h evs).filter (Outcome.isCaughtBy tid)).length = 0) := by
  induction evs generalizing h with
  | nil => simp [run]
  | cons e rest ih =>
    obtain ⟨ih1, ih2⟩ := ih (raise h e.1 e.2).1
    obtain ⟨mp, mc⟩ := raise_flags_mono h e.1 e.2
    simp only [run, List.filter_cons]
    split
    · -- this error is caught by `tid`: it was unflagged before, is flagged now, so no later error is
      next hc =>
      obtain ⟨on, ho⟩ := (isCaughtBy_iff tid _).mp hc
      obtain ⟨f1, f2, f3, -⟩ := raise_caught_fresh h e.1 e.2 tid on ho
      simp [ih2 (.inl f3), f1, f2]
    · exact ⟨ih1, fun hf => ih2 (hf.imp (mp _) (mc _))⟩

/-- on a chain of open, unflagged members of which one declares a matching catch the error is caught -/
theorem bubble_fresh_caught {code : String} {ms : List Member} {errs : List Nat} {out : Outcome}
    (hb : bubble code ms = (errs, out)) (hfresh : ∀ m ∈ ms, m.closed = false ∧ m.processed = false)
    (hdecl : ∃ m ∈ ms, (select m.catches code).isSome) : ∃ tid on, out = .caughtAt tid on := by
  obtain ⟨pre, rest, rfl, -, hpre, hend⟩ := bubble_split hb
  cases hend with
  | caught => exact ⟨_, _, rfl⟩
  | @closed m _ hc => rw [(hfresh m (by simp)).1] at hc; cases hc
  | top =>
    -- every member passed the error on, the one with the matching catch too, though it is unflagged
    obtain ⟨m, hm, hs⟩ := hdecl
    rcases (hpre m (by simpa using hm)).2 with hp | hn
    · rw [(hfresh m hm).2] at hp; cases hp
    · rw [hn] at hs; cases hs

/-- **a declared catch is not lost**: an error raised on a chain of open, unflagged tasks of which at least one declares a
matching catch is caught (it never ends the process) -/
theorem matching_catch_takes (h : Hist) (code : String) (chain : List Decl)
    (hopen : ∀ d ∈ chain, d.1 ∉ h.closed ∧ d.1 ∉ h.processed)
    (hdecl : ∃ d ∈ chain, (select d.2 code).isSome) :
    ∃ tid on, (raise h code chain).2 = .caughtAt tid on := by
  cases hb : bubble code (chain.map (member h)) with | mk errs out
  rw [raise_eq hb]
  obtain ⟨d, hd, hs⟩ := hdecl
  exact bubble_fresh_caught hb (List.forall_mem_map.mpr fun d hd => by simpa [member] using hopen d hd)
    ⟨member h d, List.mem_map_of_mem hd, hs⟩

/-- non-vacuity: three errors under one step with a catch-all (tid 1): the first is caught there, the second and third
(new acts below the revived step) pass through it to the workflow's own catch (tid 0), which takes one of them -/
example : run {} [("e", [(3, []), (1, [none]), (0, [some "e"])]), ("e", [(4, []), (1, [none]), (0, [some "e"])]),
                  ("e", [(5, []), (1, [none]), (0, [some "e"])])]
    = [.caughtAt 1 none, .caughtAt 0 (some "e"), .stoppedAt 1] := by decide

end Acts.C06
