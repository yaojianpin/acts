import ActsModel.Model.Timeout
import ActsModel.Lemmas.Timeout

/-!
# C19 — Timeout rules fire once, never early, and only for open tasks
Every theorem quantifies over all rule lists, all start times and all event sequences with
arbitrary (not even monotone) clocks.
-/
namespace Acts.C19
open Acts.Gen Acts.Tmo

/-- K1: the comparison and the constants read from the source -/
theorem source_constants : timeoutFiresAtEqual = true ∧ timeoutMillisPerSec = 1000 ∧ tickVisitsOnlyOpen = true ∧
    TimeoutUnit.secs .second = 1 ∧ TimeoutUnit.secs .minute = 60 ∧ TimeoutUnit.secs .hour = 3600 ∧
    TimeoutUnit.secs .day = 86400 ∧ timeoutRegexUnits = ['s', 'm', 'h', 'd'] := by decide

/-- K1: the unit letters -/
theorem unit_letters : TimeoutUnit.ofChar 's' = some .second ∧ TimeoutUnit.ofChar 'm' = some .minute ∧
    TimeoutUnit.ofChar 'h' = some .hour ∧ TimeoutUnit.ofChar 'd' = some .day ∧
    ∀ c, c ∉ timeoutRegexUnits → TimeoutUnit.ofChar c = none := by
  refine ⟨by decide, by decide, by decide, by decide, ?_⟩
  intro c hc
  simp [timeoutRegexUnits] at hc
  simp [TimeoutUnit.ofChar, hc]

/-- **never early**, for every history: each firing `(key, now)` belongs to a rule whose duration had elapsed at `now` -/
theorem never_early (rules : List Rule) (es : List Ev) : ∀ t, ∀ f ∈ (run rules t es).2,
    ∃ r ∈ rules, r.on = f.1 ∧ f.2 - t.start ≥ r.secs * 1000 := by
  induction es with
  | nil => intro t f hf; cases hf
  | cons e es ih =>
    intro t f hf
    simp only [run, List.mem_append, List.mem_map] at hf
    rcases hf with ⟨k, hk, rfl⟩ | hf
    · obtain ⟨now, rfl, -, -, h⟩ := (mem_step ..).mp hk
      exact h
    · rw [← step_start rules t e]
      exact ih _ f hf

/-- **at most once** per task instance and rule key, for every history (the list of fired keys has no duplicates) -/
theorem at_most_once (rules : List Rule) (es : List Ev) : ∀ t,
    ((run rules t es).2.map (·.1)).Nodup ∧ ∀ f ∈ (run rules t es).2, f.1 ∉ t.fired := by
  suffices h : ∀ t, ((run rules t es).2.map (·.1)).Nodup ∧ ∀ k ∈ (run rules t es).2.map (·.1), k ∉ t.fired from
    fun t => ⟨(h t).1, fun f hf => (h t).2 f.1 (List.mem_map_of_mem hf)⟩
  induction es with
  | nil => exact fun t => ⟨List.nodup_nil, nofun⟩
  | cons e es ih =>
    intro t
    rw [run_keys_cons]
    -- the keys of the first step are fresh; those of the later steps are fresh for the flags with the first keys added
    refine List.nodup_append_of_fresh ⟨step_nodup rules t e, fun k hk => ?_⟩ ?_
    · obtain ⟨-, -, -, hnf, -⟩ := (mem_step ..).mp hk
      exact hnf
    · simpa only [step_fired, List.mem_append, List.mem_reverse, not_or] using ih (step rules t e).1

/-- **only for open tasks**: once the task has reached a terminal state no rule fires any more -/
theorem not_after_terminal (rules : List Rule) (es : List Ev) : ∀ t, t.isOpen = false → (run rules t es).2 = [] := by
  induction es with
  | nil => intro t _; rfl
  | cons e es ih =>
    intro t ht
    have h1 : (step rules t e).2 = [] ∧ (step rules t e).1.isOpen = false := by
      cases e <;> simp [step, ht, tickVisitsOnlyOpen]
    simp [run, h1.1, ih _ h1.2]

/-- in particular a task that ends before its limit never triggers the rule -/
theorem closed_before_limit_never_fires (rules : List Rule) (t : Timed) (es : List Ev) :
    (run rules t (.close :: es)).2 = [] := by
  simp [run, step, not_after_terminal rules es { t with isOpen := false } rfl]

/-- **firing does not close the task** -/
theorem firing_keeps_open (rules : List Rule) (t : Timed) (now : Int) : (step rules t (.tick now)).1.isOpen = t.isOpen := by
  rw [step_isOpen]; exact Bool.and_true _

/-- **within one tick**: the first tick at or after the limit fires the rule of an open task -/
theorem within_one_tick (rules : List Rule) (t : Timed) (r : Rule) (hr : r ∈ rules) (ho : t.isOpen = true)
    (hnf : r.on ∉ t.fired) (now : Int) (hdue : now - t.start ≥ r.secs * 1000) : r.on ∈ (step rules t (.tick now)).2 :=
  (mem_step ..).mpr ⟨now, rfl, ho, hnf, r, hr, rfl, hdue⟩

/-- **the specification monitor accepts every history of the model**: what the driver evaluates on the engine's
observations is a predicate every run of the model satisfies, for all rules, start times, clocks and histories -/
theorem monitor_accepts_model (rules : List Rule) (es : List Ev) : ∀ (t : Timed) (m : Mon) (i : Nat),
    m.isOpen = t.isOpen → (∀ k, k ∈ m.fired ↔ k ∈ t.fired) →
    monitor rules t.start m i (obsOfRun rules t es) = none := by
  induction es with
  | nil => intro t m i _ _; rfl
  | cons e es ih =>
    intro t m i ho hf
    -- `Pass` asks of the observed keys what `mem_step` and `step_nodup` say of the keys `step` fires
    refine (monitor_cons ..).mpr ⟨⟨step_nodup rules t e, fun k => by rw [mem_step, ho, hf k]⟩, ?_⟩
    rw [← step_start rules t e]
    exact ih _ _ _ (by rw [step_isOpen, ho]) (fun k => by simp [step_fired, hf])

/-- **what an accepted history guarantees** (K3, every observed history, any clocks): if the specification monitor accepts the
observations of a task that starts open with no rule fired, then over the whole history (a) no rule key fires twice, (b) every firing
happens at a tick at which a rule with that key has reached its limit (`now - start ≥ secs·1000`: never early), and (c) nothing fires at
the event that closes the task or at any later event. This is the soundness direction of the run-time verdict; `monitor_accepts_model`
is the other direction. -/
theorem accepted_history_sound (rules : List Rule) (start : Int) (obs : List ObsEv)
    (h : monitor rules start ⟨true, []⟩ 0 obs = none) :
    (firings obs).Nodup ∧
    (∀ e fs, (e, fs) ∈ obs → ∀ k ∈ fs, ∃ now, e = .tick now ∧ ∃ r ∈ rules, r.on = k ∧ now - start ≥ r.secs * 1000) ∧
    (∀ pre fs0 post, obs = pre ++ (.close, fs0) :: post → fs0 = [] ∧ firings post = []) := by
  refine ⟨(monitor_once rules start obs _ _ h).1, monitor_never_early rules start obs _ _ h, ?_⟩
  rintro pre fs0 post rfl
  exact monitor_silent_after_close rules start pre _ _ fs0 post h

/-- **a due rule of an open task fires at the next tick** (K3): at every tick of an accepted history at which the task is still open,
every rule that has reached its limit and has not fired before is among the firings of that tick -/
theorem accepted_fires_within_one_tick (rules : List Rule) (start : Int) (m : Mon) (i : Nat) (now : Int) (fs : List String)
    (rest : List ObsEv) (h : monitor rules start m i ((.tick now, fs) :: rest) = none) (ho : m.isOpen = true) :
    ∀ r ∈ rules, r.on ∉ m.fired → now - start ≥ r.secs * 1000 → r.on ∈ fs :=
  fun r hr hnf hdue => (((monitor_cons ..).mp h).1.mem r.on).mpr ⟨now, rfl, ho, hnf, r, hr, rfl, hdue⟩

/-- non-vacuity of the two theorems above: an accepted history with a firing, and a rejected one that fires early -/
example : monitor [⟨"2s", 2⟩, ⟨"5s", 5⟩] 1000 ⟨true, []⟩ 0 [(.tick 2999, []), (.tick 3000, ["2s"]), (.close, []), (.tick 9000, [])] = none := by
  decide
example : monitor [⟨"2s", 2⟩] 1000 ⟨true, []⟩ 0 [(.tick 2999, ["2s"])] = some (0, "fires-early") := by decide

/-- duration parsing on samples (tests of the transcription, not the unbounded claim) -/
example : parseLimit "2s".toList = some (2, .second) ∧ parseLimit "15m".toList = some (15, .minute) ∧
    parseLimit "1h".toList = some (1, .hour) ∧ parseLimit "3d".toList = some (3, .day) ∧ parseLimit "s".toList = none ∧
    parseLimit "5".toList = none ∧ parseLimit "1.5s".toList = none ∧ parseLimit "".toList = none ∧
    asSecs (2, .hour) = 7200 := by decide

/-- non-vacuity: two rules, ticks before / at / after the limits, the task is answered after the first rule fired -/
example : (run [⟨"2s", 2⟩, ⟨"5s", 5⟩] ⟨1000, true, []⟩ [.tick 2999, .tick 3000, .tick 3001, .close, .tick 9000]).2 = [("2s", 3000)] := by
  decide

end Acts.C19
