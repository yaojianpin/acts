import ActsModel.Gen.Fields
import ActsModel.Lemmas.Store

/-!
# C10 — Store contract: faithful records and one query semantics on every back end
-/
namespace Acts.C10
open Acts.Gen Acts.Store

/-- a record as a function from field name to value -/
abbrev Rec := String → Val

-- ------------------------------------------------------------------ mapper round trips (K1 + refinement)

/-- the in-memory document written for a record: key ↦ value of the mapped field -/
def memWrite (c : Coll) (r : Rec) : String → Option Val := fun k => ((memDoc c).lookup k).map r
/-- serde reads every record field from the key of the same name; a missing key of an `Option` field reads as null -/
def memRead (_c : Coll) (d : String → Option Val) : Rec := fun f => (d f).getD .null

theorem mem_all (c : Coll) : c ∈ Coll.all := by cases c <;> decide

/-- K1 (translator): every field of every record is written by the in-memory mapper under its own name -/
theorem mem_fields_complete : ∀ c ∈ Coll.all, ∀ f ∈ recordFields c, (memDoc c).lookup f = some f := by
  decide

/-- find ∘ create is the identity on every field, in-memory back end -/
theorem mem_find_create (c : Coll) (r : Rec) (f : String) (hf : f ∈ recordFields c) :
    memRead c (memWrite c r) f = r f := by
  simp [memRead, memWrite, mem_fields_complete c (mem_all c) f hf]

/-- the SQLite row written by `create` (column ↦ value of the bound field) and by `update` -/
def sqlInsertRow (c : Coll) (r : Rec) : String → Option Val := fun col => ((sqlInsert c).lookup col).map r
def sqlUpdateRow (c : Coll) (old : String → Option Val) (r : Rec) : String → Option Val :=
  fun col => match (sqlUpdate c).lookup col with
    | some f => some (r f)
    | none => old col
/-- `from_row`: field ↦ value of the column it reads -/
def sqlRead (c : Coll) (row : String → Option Val) : Rec :=
  fun f => match (sqlFromRow c).lookup f with
    | some col => (row col).getD .null
    | none => .null

/-- K1 (translator): every field is read from the column that `create` binds to the same field, and every field
but the key is rewritten by `update` through the same column -/
theorem sql_rowmap_identity : ∀ c ∈ Coll.all, ∀ f ∈ recordFields c,
    ∃ col, (sqlFromRow c).lookup f = some col ∧ (sqlInsert c).lookup col = some f ∧
      (f = "id" ∨ (sqlUpdate c).lookup col = some f) := by
  decide

theorem sql_find_create (c : Coll) (r : Rec) (f : String) (hf : f ∈ recordFields c) :
    sqlRead c (sqlInsertRow c r) f = r f := by
  obtain ⟨col, h1, h2, _⟩ := sql_rowmap_identity c (mem_all c) f hf
  simp [sqlRead, sqlInsertRow, h1, h2]

/-- update replaces every field except the key -/
theorem sql_find_update (c : Coll) (old : String → Option Val) (r : Rec) (f : String) (hf : f ∈ recordFields c)
    (hid : f ≠ "id") : sqlRead c (sqlUpdateRow c old r) f = r f := by
  obtain ⟨col, h1, _, h3⟩ := sql_rowmap_identity c (mem_all c) f hf
  simp [sqlRead, sqlUpdateRow, h1, h3.resolve_left hid]

/-- `update` never rebinds the key column -/
theorem sql_update_keeps_id : ∀ c ∈ Coll.all, (sqlUpdate c).lookup "id" = none := by decide

-- ------------------------------------------------------------------ query = page ∘ sort ∘ filter

/-- well-formed query: every AND/OR group has at least one expression (`ExecutorQuery::into_query` never builds
an empty group; an empty group is rejected by the generator) -/
def _root_.Acts.Store.Query.WF (q : Query) : Prop := ∀ c ∈ q.conds, c.exprs ≠ []

/-- K4: the accumulation of id sets in `collect.rs` selects exactly the records that satisfy the filter -/
theorem mem_filter_eq_spec (db : List Row) (hnd : (db.map (·.id)).Nodup) (q : Query) (hq : q.WF) :
    memFilter db q = specFilter db q := by
  unfold memFilter specFilter
  split
  · next he =>
    have he : q.conds = [] := List.isEmpty_iff.mp he
    exact (List.filter_eq_self.mpr fun r _ => by simp [Query.holds, he]).symm
  · next he =>
    refine List.filter_congr fun r hr => Bool.eq_iff_iff.mpr ?_
    rw [List.contains_iff_mem]
    exact mem_querySet_id hnd hr (mt List.isEmpty_iff.mpr he) hq

theorem mem_query_eq_spec (db : List Row) (hnd : (db.map (·.id)).Nodup) (q : Query) (hq : q.WF) :
    memQuery db q = specQuery db q := by
  unfold memQuery specQuery; rw [mem_filter_eq_spec db hnd q hq]

/-- every selected record satisfies the filter and every record that satisfies it is selected -/
theorem spec_filter_iff (db : List Row) (q : Query) (r : Row) :
    r ∈ specFilter db q ↔ r ∈ db ∧ q.holds r = true := by
  simp [specFilter, List.mem_filter]

/-- sorting only permutes -/
theorem sort_perm (order : List (String × Bool)) (rows : List Row) : (sortRows order rows).Perm rows := by
  unfold sortRows; split
  · exact List.Perm.refl _
  · exact List.mergeSort_perm _ _

/-- the count reported with a page is the number of records that satisfy the filter, whatever the window -/
theorem count_is_total (db : List Row) (q : Query) : (specQuery db q).count = (specFilter db q).length := by
  simp [specQuery, page, (sort_perm q.order _).length_eq]

/-- the rows of a page are the window [offset, offset + limit) of the ordered result -/
theorem page_is_window (db : List Row) (q : Query) :
    (specQuery db q).rows = ((sortRows q.order (specFilter db q)).drop q.offset).take q.lim := rfl

theorem page_rows_le_limit (db : List Row) (q : Query) : (specQuery db q).rows.length ≤ q.lim :=
  List.length_take_le ..

theorem page_rows_subset (db : List Row) (q : Query) (r : Row) (h : r ∈ (specQuery db q).rows) :
    r ∈ db ∧ q.holds r = true := by
  have h1 : r ∈ sortRows q.order (specFilter db q) := List.mem_of_mem_drop (List.mem_of_mem_take h)
  exact (spec_filter_iff db q r).mp ((sort_perm _ _).mem_iff.mp h1)

/-- numbers are ordered numerically (the defect of the text comparison: "10" < "9") -/
theorem cmp_numeric (a b : Int) : Val.cmp (.int a) (.int b) = compare a b := rfl
example : Val.cmp (.int 9) (.int 10) = .lt := by decide

-- ------------------------------------------------------------------ CRUD on the keyed collection

theorem find_update (db : List Row) (r : Row) (h : (find db r.id).isSome) : find (update db r) r.id = some r := by
  obtain ⟨x, hx⟩ := Option.isSome_iff_exists.mp h
  simp [find_update_eq, hx, find_some_id hx]

theorem find_delete (db : List Row) (id : String) : find (delete db id) id = none := by
  simp [find_delete_eq]

theorem delete_frame (db : List Row) (id other : String) (h : other ≠ id) :
    find (delete db id) other = find db other := by
  simp [find_delete_eq, h]

theorem update_frame (db : List Row) (r : Row) (other : String) (h : other ≠ r.id) :
    (find (update db r) other).map (·.id) = (find db other).map (·.id) ∧
    (∀ x, find db other = some x → find (update db r) other = some x) := by
  rw [find_update_of_ne h]; exact ⟨rfl, fun _ hx => hx⟩

theorem find_create (db : List Row) (r : Row) : find (create db r) r.id = some r := by
  simp [find_create_eq]

/-- non-vacuity: a concrete three-record collection on which an AND group whose first expression matches nothing
selects nothing (the widening defect would select record "b") -/
def exDb : List Row :=
  [⟨"a", [("id", .str "a"), ("status", .int 1), ("t", .int 5)]⟩,
   ⟨"b", [("id", .str "b"), ("status", .int 1), ("t", .int 1)]⟩,
   ⟨"c", [("id", .str "c"), ("status", .int 2), ("t", .int 9)]⟩]
def exQ : Query := ⟨[⟨true, [⟨.eq, "status", .int 0⟩, ⟨.lt, "t", .int 3⟩]⟩], [], 0, 10⟩
example : (exDb.map (·.id)).Nodup ∧ exQ.WF := by
  exact ⟨by decide, by simp [Query.WF, exQ]⟩
example : (memQuery exDb exQ).rows = [] := by decide

end Acts.C10
