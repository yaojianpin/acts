import ActsModel.Model.Generate
import ActsModel.Gen.Generate
import ActsModel.Lemmas.Basic

/-!
# C16 — Generated acts and lifecycle hooks run exactly as many times as specified
-/
namespace Acts.C16
open Acts.Gen Acts.Generate

-- ------------------------------------------------------------------ expansion (K3: every list, every act list)

theorem expandFrom_eq_mapIdx (acts : List String) (k : Nat) (items : List String) :
    expandFrom acts k items = items.mapIdx fun j v => expandGroup acts (k + j) v := by
  induction items generalizing k with
  | nil => rfl
  | cons v vs ih => simp [expandFrom, ih, List.mapIdx_cons, Nat.add_assoc, Nat.add_comm 1]

theorem expand_eq_mapIdx (items acts : List String) : expand items acts = items.mapIdx (expandGroup acts) := by
  simp [expand, expandFrom_eq_mapIdx]

/-- one group per element (the empty list builds nothing) -/
theorem one_group_per_element (items acts : List String) : (expand items acts).length = items.length := by
  rw [expand_eq_mapIdx, List.length_mapIdx]

/-- group `k` is built from element `k`, and every act of it carries index `k` and that element, in the order of the act list -/
theorem group_sees_own_index_and_value (items acts : List String) (k : Nat) (h : k < items.length) :
    (expand items acts)[k]'(by rw [one_group_per_element]; exact h) = acts.map (fun a => ⟨a, k, items[k]⟩) := by
  simp only [expand_eq_mapIdx, List.getElem_mapIdx, expandGroup]

/-- each group has exactly the generator's acts -/
theorem group_size (items acts : List String) (g : List Opened) (h : g ∈ expand items acts) : g.length = acts.length := by
  rw [expand_eq_mapIdx, List.mem_mapIdx] at h
  obtain ⟨_, _, rfl⟩ := h
  exact List.length_map _

/-- K1: the source builds exactly this: one block per element with `$index`/`$value`, and the block hands a copy of them to every act -/
theorem expansion_tables : parallelOneBlockPerElement = true ∧ sequenceOneBlockPerElement = true ∧ blockCopiesOptionsToEveryAct = true ∧
    parallelLinksAsSequence = false ∧ sequenceLinksAsSequence = true := by decide

-- ------------------------------------------------------------------ scheduling of the groups

/-- a parallel generator opens every group at once -/
theorem parallel_opens_all (n k : Nat) (h : k < n) : (Gen.mk false n []).opened k = true := by
  simp [Gen.opened, h]

/-- a sequence opens group `k` exactly when every earlier group has finished -/
theorem sequence_opens_in_order (g : Gen) (hs : g.seq = true) (k : Nat) :
    g.opened k = true ↔ k < g.n ∧ ∀ j, j < k → g.finished j = true := by
  simp [Gen.opened, hs]

/-- in either mode a group whose predecessors have all finished is open -/
theorem opened_of_earlier_finished (g : Gen) (k : Nat) (hk : k < g.n) (h : ∀ j, j < k → g.finished j = true) :
    g.opened k = true := by
  simp only [Gen.opened, hk, decide_true, Bool.true_and, Bool.or_eq_true, List.all_eq_true, List.mem_range]
  exact .inr h

/-- at the start a sequence has opened only its first group -/
theorem sequence_starts_with_first (n k : Nat) : (Gen.mk true n []).opened k = true ↔ k = 0 ∧ 0 < n := by
  rw [sequence_opens_in_order _ rfl]
  constructor
  · rintro ⟨hk, hall⟩
    cases k with
    | zero => exact ⟨rfl, hk⟩
    | succ k => cases hall 0 (Nat.succ_pos k)
  · rintro ⟨rfl, hn⟩; exact ⟨hn, fun j hj => absurd hj (Nat.not_lt_zero j)⟩

/-- the finished groups of a sequence are always an initial segment of the list (K3: every order of finish events, legal or not) -/
def PrefixClosed (g : Gen) : Prop := ∀ k, g.finished k = true → ∀ j, j < k → g.finished j = true

/-- what `finish k` changes: group `k` counts as finished if it was open -/
theorem finished_finish (g : Gen) (k j : Nat) :
    (g.finish k).finished j = true ↔ g.finished j = true ∨ j = k ∧ g.opened k = true := by
  unfold Gen.finish
  split
  · next h =>
    rw [Bool.and_eq_true] at h
    simp only [Gen.finished, List.contains_cons, Bool.or_eq_true, beq_iff_eq, h.1, and_true, or_comm]
  · next h =>
    simp only [Bool.and_eq_true, Bool.not_eq_true', not_and, Bool.not_eq_false] at h
    exact ⟨.inl, fun h' => h'.elim id fun ⟨hj, ho⟩ => hj ▸ h ho⟩

theorem finish_seq (g : Gen) (k : Nat) : (g.finish k).seq = g.seq ∧ (g.finish k).n = g.n := by
  unfold Gen.finish; split <;> exact ⟨rfl, rfl⟩

/-- finishing groups never un-finishes one: completion is stable -/
theorem finish_mono (g : Gen) (k j : Nat) (h : g.finished j = true) : (g.finish k).finished j = true :=
  (finished_finish g k j).mpr (.inl h)

theorem finish_prefix (g : Gen) (hs : g.seq = true) (k : Nat) (h : PrefixClosed g) : PrefixClosed (g.finish k) := by
  intro m hm j hj
  rw [finished_finish] at hm ⊢
  rcases hm with hm | ⟨rfl, ho⟩
  · exact .inl (h m hm j hj)
  · exact .inl (((sequence_opens_in_order g hs m).1 ho).2 j hj)

theorem run_prefix (g : Gen) (hs : g.seq = true) (ks : List Nat) (h : PrefixClosed g) : PrefixClosed (g.run ks) :=
  (List.foldlRecOn (motive := fun g => g.seq = true ∧ PrefixClosed g) ks Gen.finish ⟨hs, h⟩ fun g hg k _ =>
    ⟨(finish_seq g k).1.trans hg.1, finish_prefix g hg.1 k hg.2⟩).2

/-- a sequence never has two groups in progress: the groups run one after another -/
theorem sequence_one_at_a_time (g : Gen) (hs : g.seq = true) (a b : Nat)
    (ha : g.opened a = true ∧ g.finished a = false) (hb : g.opened b = true ∧ g.finished b = false) : a = b := by
  have below : ∀ a b, g.finished a = false → g.opened b = true → ¬a < b := fun a b hfa hob h => by
    rw [((sequence_opens_in_order g hs b).1 hob).2 a h] at hfa; cases hfa
  exact Nat.le_antisymm (Nat.not_lt.mp (below b a hb.2 ha.1)) (Nat.not_lt.mp (below a b ha.2 hb.1))

/-- the generator completes only after every group has finished, and an empty list completes at once -/
theorem complete_iff (g : Gen) : g.complete = true ↔ ∀ k, k < g.n → g.finished k = true := by
  simp [Gen.complete]

theorem empty_list_completes (seq : Bool) : (Gen.mk seq 0 []).complete = true := by simp [Gen.complete]

/-- progress: while the generator is incomplete some group is in progress (so answering open acts always completes it) -/
theorem incomplete_has_active (g : Gen) (h : g.complete = false) : g.active ≠ [] := by
  -- the least unfinished group is open
  cases hf : (List.range g.n).find? (fun k => !g.finished k) with
  | none =>
    have : g.complete = true := (complete_iff g).mpr fun k hk => by
      simpa using List.find?_eq_none.mp hf k (List.mem_range.mpr hk)
    rw [this] at h; cases h
  | some k =>
    obtain ⟨hfk, hk, hmin⟩ := List.find?_range_eq_some.mp hf
    have hopen := opened_of_earlier_finished g k (List.mem_range.mp hk) fun j hj => by simpa using hmin j hj
    exact List.ne_nil_of_mem (List.mem_filter.mpr ⟨hk, by rw [hopen, hfk]; rfl⟩)

-- ------------------------------------------------------------------ hooks

/-- a statement fires as often as it is registered under the class of the event -/
theorem count_fires (hooks : List (LifeCycle × String)) (l : LifeCycle) (key : String) :
    (fires hooks (some l)).count key = hooks.count (l, key) := by
  simp only [fires, List.count_eq_countP, List.countP_map, List.countP_filter]
  exact List.countP_congr fun ⟨l', k'⟩ _ => by simp [and_comm]

/-- a hook registered once, under class `l`, fires once for an event of class `l` and not otherwise -/
theorem count_fires_of_unique (hooks : List (LifeCycle × String)) (l : LifeCycle) (key : String)
    (huniq : (hooks.filter (fun h => h.2 == key)).length = 1) (hreg : (l, key) ∈ hooks) (o : Option LifeCycle) :
    (fires hooks o).count key = if o == some l then 1 else 0 := by
  cases o with
  | none => rfl
  | some l' =>
    have hk : (key == key) = true := beq_iff_eq.mpr rfl
    have hc : (hooks.filter fun h => h.2 == key).count (l', key) = hooks.count (l', key) := List.count_filter hk
    rw [count_fires, ← hc, List.filter_eq_singleton huniq hreg hk, List.count_singleton]
    simp only [beq_iff_eq, Prod.mk.injEq, and_true, Option.some.injEq, eq_comm (a := l)]

/-- a hook registered once under a class fires exactly once for an event of that class … -/
theorem fires_once (hooks : List (LifeCycle × String)) (l : LifeCycle) (key : String)
    (huniq : (hooks.filter (fun h => h.2 == key)).length = 1) (hreg : (l, key) ∈ hooks) :
    (fires hooks (some l)).count key = 1 := by
  rw [count_fires_of_unique hooks l key huniq hreg, beq_self_eq_true, if_pos rfl]

/-- … and never for an event of another class or for a state without an event -/
theorem fires_only_own_class (hooks : List (LifeCycle × String)) (l l' : LifeCycle) (key : String)
    (hother : ∀ h ∈ hooks, h.2 = key → h.1 = l) (hne : l' ≠ l) : (fires hooks (some l')).count key = 0 := by
  rw [count_fires, List.count_eq_zero]
  exact fun hm => hne (hother _ hm rfl)

theorem fires_none (hooks : List (LifeCycle × String)) : fires hooks none = [] := rfl

/-- whatever maps events to classes (`firesOwn`, `firesFromActs`): a hook registered once fires once per event of its class -/
theorem hook_count {α : Type} (hooks : List (LifeCycle × String)) (l : LifeCycle) (key : String)
    (huniq : (hooks.filter (fun h => h.2 == key)).length = 1) (hreg : (l, key) ∈ hooks)
    (cls : α → Option LifeCycle) (events : List α) :
    (events.flatMap fun s => fires hooks (cls s)).count key = (events.filter fun s => cls s == some l).length := by
  induction events with
  | nil => rfl
  | cons s ss ih =>
    rw [List.flatMap_cons, List.count_append, ih, count_fires_of_unique hooks l key huniq hreg, List.filter_cons]
    split <;> simp [Nat.add_comm]

/-- over the whole life of a task: the number of firings of a `created` / `completed` hook is the number of events of that class
(K3: every event list; K1: the class table translated from `run_hooks`) -/
theorem own_hook_count (hooks : List (LifeCycle × String)) (l : LifeCycle) (key : String)
    (huniq : (hooks.filter (fun h => h.2 == key)).length = 1) (hreg : (l, key) ∈ hooks) (events : List TaskState) :
    (firesOwn hooks events).count key = (events.filter (fun s => ownLifeCycle s == some l)).length :=
  hook_count hooks l key huniq hreg ownLifeCycle events

/-- K1: created-class events are exactly ready / pending / interrupt; every non-error terminal state is a completed-class event;
running and none raise nothing -/
theorem lifecycle_classes :
    (∀ s : TaskState, ownLifeCycle s = some .created ↔ s = .ready ∨ s = .pending ∨ s = .interrupt) ∧
    (∀ s : TaskState, ownLifeCycle s = some .completed ↔ (s.isCompleted = true ∧ s ≠ .error)) ∧
    ownLifeCycle .running = none ∧ ownLifeCycle .none = none := by
  refine ⟨?_, ?_, rfl, rfl⟩ <;> intro s <;> cases s <;> decide

/-- K1: a setup act with `on` is registered under the lifecycle of the same name and is not built as a node -/
theorem hook_registration :
    hookRegistration = [("Created", "Created"), ("Completed", "Completed"), ("BeforeUpdate", "BeforeUpdate"), ("Updated", "Updated"), ("Step", "Step")] ∧
    hookActsAreNotBuilt = true := by decide

-- ------------------------------------------------------------------ push

/-- a push adds exactly one act and keeps the others -/
theorem push_adds_one {α : Type} (children : List α) (a : α) : (push children a).length = children.length + 1 ∧ children <+: push children a := by
  simp [push]

/-- K1: the Push arm dispatches one act, after refusing a request without `uses` -/
theorem push_tables : pushDispatchCalls = 1 ∧ pushChecksUsesFirst = true := by decide

/-- non-vacuity -/
example : expand ["u", "v"] ["k1", "k2"] = [[⟨"k1", 0, "u"⟩, ⟨"k2", 0, "u"⟩], [⟨"k1", 1, "v"⟩, ⟨"k2", 1, "v"⟩]] := by decide
example : ((Gen.mk true 3 []).run [1, 0, 2, 1]).fin = [1, 0] := by decide
example : (firesOwn [(.created, "h1"), (.completed, "h2")] [.ready, .running, .completed]) = ["h1", "h2"] := by decide

-- ------------------------------------------------------------------ the review rule of a generating act (open finding)

/-- **partial** (`generator completes only after every generated act is terminal`, for histories without a skip or an error among
the groups): the rule closes the act exactly when every child has succeeded -/
theorem review_completes_iff_all_done_partial (cs : List Child) (h : ∀ c ∈ cs, c = .opn ∨ c = .success) :
    (reviewRule cs = .completed ↔ ∀ c ∈ cs, c = .success) ∧ (reviewRule cs = .completed ∨ reviewRule cs = .stay) := by
  induction cs with
  | nil => simp [reviewRule]
  | cons c cs ih =>
    obtain ⟨ih1, ih2⟩ := ih (fun x hx => h x (List.mem_cons_of_mem _ hx))
    rcases h c (by simp) with rfl | rfl
    · rcases ih2 with h2 | h2 <;> simp [reviewRule, h2]
    · simp only [reviewRule, List.mem_cons, forall_eq_or_imp, true_and]
      exact ⟨ih1, ih2⟩

/-- **the open finding on the rule** (`C16|generator-ends-before-groups|skip-one-group`): the full statement is false of the rule —
one skipped group closes the generating act while another group is still open -/
theorem review_skip_closes_early : ∃ cs : List Child, Child.opn ∈ cs ∧ reviewRule cs = .skipped :=
  ⟨[.skipped, .opn, .opn], by simp, by decide⟩

example : reviewRule [.success, .opn, .success] = .stay ∧ reviewRule [.success, .success] = .completed ∧ reviewRule [.opn, .skipped] = .skipped := by decide

end Acts.C16
