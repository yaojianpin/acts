import ActsModel.Lemmas.Ref
import ActsModel.Spec.Progress
import ActsModel.Gen.Branch
import ActsModel.Model.Wait

/-!
# C01 — Progress: a quiescent, unfinished process is always waiting on a client
Theorems about the reference interpretation (all workflows of the fragment, all input valuations — the
conditions are arbitrary booleans —, all sets of answered interrupts) by mutual structural induction.
The operational side (the engine and its Lean transcription `Model/Op.lean`) is held to the same
predicate `Spec.progressOK` at every quiescent point of generated runs and schedules.
-/
namespace Acts.C01
open Acts.Ref

/-- a well-formed `needs` list that finds nothing in `tm` names a condition branch that is not in `tm` -/
theorem needs_names_unfinished (ns cids tm : List String) (h1 : (!ns.isEmpty && ns.all (cids.contains ·)) = true)
    (h2 : ns.any (tm.contains ·) = false) : ∃ n, n ∈ cids ∧ n ∉ tm := by
  cases ns with
  | nil => simp at h1
  | cons n ns =>
    simp only [List.any_cons, Bool.or_eq_false_iff] at h2
    simp only [List.all_cons, Bool.and_eq_true] at h1
    exact ⟨n, by simpa using h1.2.1, by simpa using h2.1⟩

/-! ### progress -/

theorem progress_acts (a : Answered) (as : List RAct) : doneActs a as = true ∨ opensActs a as ≠ [] := by
  rw [doneActs_eq, opensActs_eq]
  refine seqOpens_ne_nil fun x _ => ?_
  cases x with
  | irq i c => cases c <;> cases h : a i <;> simp [doneAct, opensAct, h]
  | msg i c => simp [doneAct]

/-- a branch that does not run is skipped, or is a `needs` branch none of whose needed siblings has ended yet -/
theorem progress_branch_of {a : Answered} {sc : Bool} {tm cids : List String} {b : RBranch} (hw : wfBranch cids b = true)
    (hrun : b.guard.runs sc tm = true → doneBranch a sc tm b = true ∨ opensBranch a sc tm b ≠ []) :
    doneBranch a sc tm b = true ∨ opensBranch a sc tm b ≠ [] ∨ (∃ n, n ∈ cids ∧ n ∉ tm) := by
  cases hr : b.guard.runs sc tm
  · obtain ⟨i, g, ss⟩ := b
    rw [doneBranch_eq, if_neg (by simpa using hr)]
    cases g with
    | needs ns => exact .inr (.inr (needs_names_unfinished ns cids tm (Bool.and_eq_true_iff.1 hw).1 hr))
    | _ => exact .inl rfl
  · exact (hrun hr).imp_right .inl

/-- **progress**: a started step is finished or waits on an interrupt; so does a branch whose steps run -/
theorem progress_aux (a : Answered) :
    (∀ s, wfStep s = true → doneStep a s = true ∨ opensStep a s ≠ []) ∧
    (∀ b sc tm cids, wfBranch cids b = true → b.guard.runs sc tm = true →
      doneBranch a sc tm b = true ∨ opensBranch a sc tm b ≠ []) := by
  refine RStep.induct (fun i c bs as ih hw => ?_) (fun i g ss ih sc tm cids hw hr => ?_)
  · cases c
    · exact .inl rfl
    · simp only [wfStep, wfBranches_eq, List.all_eq_true] at hw
      simp only [doneStep, opensStep, Bool.not_true, Bool.false_eq_true, ↓reduceIte, Bool.and_eq_true, ne_eq,
        List.append_eq_nil_iff, doneBranches_eq, opensBranches_eq, List.all_eq_true, List.flatMap_eq_nil_iff]
      refine Classical.or_iff_not_imp_right.2 fun ho => ?_
      rw [Classical.not_not] at ho
      refine ⟨fun b hb => ?_, (progress_acts a as).resolve_right (not_not_intro ho.2)⟩
      -- suppose nothing is open; then every branch that runs is done
      have hrun : ∀ b ∈ bs, b.guard.runs (stepTaken bs as) (termIds a bs) = true →
          doneBranch a (stepTaken bs as) (termIds a bs) b = true := fun b hb hr =>
        (ih b hb _ _ _ (hw b hb) hr).resolve_right (not_not_intro (ho.1 b hb))
      rcases progress_branch_of (hw b hb) (ih b hb _ _ _ (hw b hb)) with h | h | ⟨n, hn, hnt⟩
      · exact h
      · exact absurd (ho.1 b hb) h
      · -- the branch waits for `n`, a condition branch that has not ended; but that one runs, so it is done (`hrun`), so it has ended
        obtain ⟨hc, ss, hb'⟩ := mem_condIds.1 hn
        have hended : hc = false ∨ doneSteps a ss = true := by
          cases hc
          · exact .inl rfl
          · exact .inr (hrun _ hb' rfl)
        exact absurd ((mem_termIds a).2 ⟨hc, ss, hb', hended⟩) hnt
  · replace hr : g.runs sc tm = true := hr
    have hws := wfSteps_of_wfBranch hw
    rw [wfSteps_eq, List.all_eq_true] at hws
    rw [doneBranch_eq, opensBranch_eq, if_pos hr, if_pos hr, doneSteps_eq, opensSteps_eq]
    exact seqOpens_ne_nil fun s hs => ih s hs (hws s hs)

theorem progress_step (a : Answered) (s : RStep) (hw : wfStep s = true) : doneStep a s = true ∨ opensStep a s ≠ [] :=
  (progress_aux a).1 s hw

theorem progress_steps (a : Answered) (ss : List RStep) (hw : wfSteps ss = true) : doneSteps a ss = true ∨ opensSteps a ss ≠ [] := by
  rw [wfSteps_eq, List.all_eq_true] at hw
  rw [doneSteps_eq, opensSteps_eq]
  exact seqOpens_ne_nil fun s hs => progress_step a s (hw s hs)

/-- a branch is finished, or waits on an interrupt, or is a `needs` branch none of whose needed siblings has ended yet -/
theorem progress_branch (a : Answered) (sc : Bool) (tm cids : List String) (b : RBranch) (hw : wfBranch cids b = true) :
    doneBranch a sc tm b = true ∨ opensBranch a sc tm b ≠ [] ∨ (∃ n, n ∈ cids ∧ n ∉ tm) :=
  progress_branch_of hw ((progress_aux a).2 b sc tm cids hw)

theorem progress_branches (a : Answered) (sc : Bool) (tm cids : List String) (bs : List RBranch) (hw : wfBranches cids bs = true) :
    doneBranches a sc tm bs = true ∨ opensBranches a sc tm bs ≠ [] ∨ (∃ n, n ∈ cids ∧ n ∉ tm) := by
  rw [wfBranches_eq, List.all_eq_true] at hw
  rw [doneBranches_eq, opensBranches_eq, List.all_eq_true, ne_eq, List.flatMap_eq_nil_iff]
  refine Classical.or_iff_not_imp_left.2 fun hd => ?_
  obtain ⟨b, hb, hnd⟩ := Classical.not_forall.1 hd |>.imp fun b h => Classical.not_imp.1 h
  exact ((progress_branch a sc tm cids b (hw b hb)).resolve_left hnd).imp_left fun ho h => ho (h b hb)

/-- **C01 for the reference interpretation**: an unfinished workflow always has an open interrupt -/
theorem progress (a : Answered) (w : RWorkflow) (hw : w.wf = true) : w.done a = true ∨ w.opens a ≠ [] := progress_steps a w.steps hw

/-! ### every open interrupt is an unanswered one (so answering it changes the state) -/

theorem opens_unanswered_acts (a : Answered) (as : List RAct) : ∀ i ∈ opensActs a as, a i = false := by
  intro i hi
  obtain ⟨x, _, hx⟩ := mem_seqOpens (opensActs_eq a as ▸ hi)
  cases x with
  | irq j c => simp only [opensAct] at hx; split at hx <;> simp_all
  | msg j c => cases hx

theorem opens_unanswered (a : Answered) :
    (∀ s, ∀ i ∈ opensStep a s, a i = false) ∧ (∀ b sc tm, ∀ i ∈ opensBranch a sc tm b, a i = false) := by
  refine RStep.induct (fun j c bs as ih i hi => ?_) (fun j g ss ih sc tm i hi => ?_)
  · cases c
    · cases hi
    · simp only [opensStep, Bool.not_true, Bool.false_eq_true, ↓reduceIte, opensBranches_eq, List.mem_append,
        List.mem_flatMap] at hi
      rcases hi with ⟨b, hb, hi⟩ | hi
      · exact ih b hb _ _ i hi
      · exact opens_unanswered_acts a as i hi
  · rw [opensBranch_eq] at hi
    split at hi
    · obtain ⟨s, hs, hi⟩ := mem_seqOpens (opensSteps_eq a ss ▸ hi)
      exact ih s hs i hi
    · cases hi

theorem opens_unanswered_step (a : Answered) (s : RStep) : ∀ i ∈ opensStep a s, a i = false :=
  (opens_unanswered a).1 s

theorem opens_unanswered_steps (a : Answered) (ss : List RStep) : ∀ i ∈ opensSteps a ss, a i = false := by
  intro i hi
  obtain ⟨s, _, hi⟩ := mem_seqOpens (opensSteps_eq a ss ▸ hi)
  exact opens_unanswered_step a s i hi

theorem opens_unanswered_branch (a : Answered) (sc : Bool) (tm : List String) (b : RBranch) : ∀ i ∈ opensBranch a sc tm b, a i = false :=
  (opens_unanswered a).2 b sc tm

theorem opens_unanswered_branches (a : Answered) (sc : Bool) (tm : List String) (bs : List RBranch) :
    ∀ i ∈ opensBranches a sc tm bs, a i = false := by
  intro i hi
  obtain ⟨b, _, hi⟩ := List.mem_flatMap.1 (opensBranches_eq a sc tm bs ▸ hi)
  exact opens_unanswered_branch a sc tm b i hi

/-! ### a process whose every interrupt is answered finishes

Nothing unanswered is left to be open (`opens_unanswered`), so progress leaves only "finished". -/

/-- the hypothesis has the β-redex that `opens_unanswered_* (fun _ => true)` produces -/
theorem nil_of_all_answered {l : List String} (h : ∀ i ∈ l, (fun _ : String => true) i = false) : l = [] :=
  List.eq_nil_iff_forall_not_mem.2 fun i hi => Bool.noConfusion (h i hi)

theorem all_answered_done_step (s : RStep) (hw : wfStep s = true) : doneStep (fun _ => true) s = true :=
  (progress_step _ s hw).resolve_right (not_not_intro (nil_of_all_answered (opens_unanswered_step _ s)))

theorem all_answered_done_steps (ss : List RStep) (hw : wfSteps ss = true) : doneSteps (fun _ => true) ss = true :=
  (progress_steps _ ss hw).resolve_right (not_not_intro (nil_of_all_answered (opens_unanswered_steps _ ss)))

theorem all_answered_done_branch (sc : Bool) (tm cids : List String) (b : RBranch) (hw : wfBranch cids b = true)
    (hsub : ∀ n, n ∈ cids → n ∈ tm) : doneBranch (fun _ => true) sc tm b = true := by
  rcases progress_branch _ sc tm cids b hw with h | h | ⟨n, hn, hnt⟩
  · exact h
  · exact absurd (nil_of_all_answered (opens_unanswered_branch _ sc tm b)) h
  · exact absurd (hsub n hn) hnt

theorem all_answered_done_branches (sc : Bool) (tm cids : List String) (bs : List RBranch) (hw : wfBranches cids bs = true)
    (hsub : ∀ n, n ∈ cids → n ∈ tm) : doneBranches (fun _ => true) sc tm bs = true := by
  rw [wfBranches_eq, List.all_eq_true] at hw
  rw [doneBranches_eq, List.all_eq_true]
  exact fun b hb => all_answered_done_branch sc tm cids b (hw b hb) hsub

/-- with every interrupt answered every condition branch has ended -/
theorem all_answered_term (bs : List RBranch) (cids : List String) (hw : wfBranches cids bs = true) :
    ∀ n, n ∈ condIds bs → n ∈ termIds (fun _ => true) bs := by
  rw [wfBranches_eq, List.all_eq_true] at hw
  intro n hn
  obtain ⟨hc, ss, hb⟩ := mem_condIds.1 hn
  refine (mem_termIds _).2 ⟨hc, ss, hb, ?_⟩
  cases hc
  · exact .inl rfl
  · exact .inr (all_answered_done_steps ss (wfSteps_of_wfBranch (hw _ hb)))

theorem all_answered_finishes (w : RWorkflow) (hw : w.wf = true) : w.done (fun _ => true) = true := all_answered_done_steps w.steps hw

/-! ### answering more interrupts never un-finishes anything -/

theorem done_mono_acts (a a' : Answered) (h : ∀ i, a i = true → a' i = true) (as : List RAct) :
    doneActs a as = true → doneActs a' as = true := by
  simp only [doneActs_eq, List.all_eq_true]
  refine fun hd x hx => ?_
  cases x with
  | irq j c =>
    cases c
    · rfl
    · exact h j (hd _ hx)
  | msg j c => rfl

/-- a condition branch has ended iff it is done, and for a condition branch `doneBranch` looks at neither `sc` nor `tm`
(`true []` stand for any): so the ended branches grow as the done ones do -/
theorem term_mono_of {a a' : Answered} {bs : List RBranch}
    (hb : ∀ b ∈ bs, doneBranch a true [] b = true → doneBranch a' true [] b = true) :
    ∀ n, n ∈ termIds a bs → n ∈ termIds a' bs := by
  simp only [mem_termIds]
  rintro n ⟨hc, ss, hmem, hd⟩
  refine ⟨hc, ss, hmem, ?_⟩
  cases hc
  · exact .inl rfl
  · exact .inr (hb _ hmem (hd.resolve_left Bool.noConfusion))

theorem done_mono (a a' : Answered) (h : ∀ i, a i = true → a' i = true) :
    (∀ s, doneStep a s = true → doneStep a' s = true) ∧
    (∀ b sc tm tm', (∀ n, n ∈ tm → n ∈ tm') → doneBranch a sc tm b = true → doneBranch a' sc tm' b = true) := by
  refine RStep.induct (fun j c bs as ih => ?_) (fun j g ss ih sc tm tm' htm => ?_)
  · cases c
    · exact id
    · simp only [doneStep, Bool.not_true, Bool.false_eq_true, ↓reduceIte, Bool.and_eq_true, doneBranches_eq, List.all_eq_true]
      have hterm : ∀ n, n ∈ termIds a bs → n ∈ termIds a' bs := term_mono_of fun b hb => ih b hb true [] [] fun _ => id
      exact fun hd => ⟨fun b hb => ih b hb _ _ _ hterm (hd.1 b hb), done_mono_acts a a' h as hd.2⟩
  · have hss : doneSteps a ss = true → doneSteps a' ss = true := by
      simp only [doneSteps_eq, List.all_eq_true]
      exact fun hd s hs => ih s hs (hd s hs)
    cases g with
    | cond hc =>
      cases hc
      · exact id
      · exact hss
    | otherwise =>
      cases sc
      · exact hss
      · exact id
    | needs ns =>
      simp only [doneBranch]
      intro hd
      split at hd
      · rename_i hr
        obtain ⟨n, hn, hc⟩ := List.any_eq_true.1 hr
        rw [if_pos (List.any_eq_true.2 ⟨n, hn, by simpa using htm n (by simpa using hc)⟩)]
        exact hss hd
      · cases hd

theorem done_mono_step (a a' : Answered) (h : ∀ i, a i = true → a' i = true) (s : RStep) :
    doneStep a s = true → doneStep a' s = true :=
  (done_mono a a' h).1 s

theorem done_mono_steps (a a' : Answered) (h : ∀ i, a i = true → a' i = true) (ss : List RStep) :
    doneSteps a ss = true → doneSteps a' ss = true := by
  simp only [doneSteps_eq, List.all_eq_true]
  exact fun hd s hs => done_mono_step a a' h s (hd s hs)

theorem done_mono_branch (a a' : Answered) (h : ∀ i, a i = true → a' i = true) (sc : Bool) (tm tm' : List String)
    (htm : ∀ n, n ∈ tm → n ∈ tm') (b : RBranch) :
    doneBranch a sc tm b = true → doneBranch a' sc tm' b = true :=
  (done_mono a a' h).2 b sc tm tm' htm

theorem done_mono_branches (a a' : Answered) (h : ∀ i, a i = true → a' i = true) (sc : Bool) (tm tm' : List String)
    (htm : ∀ n, n ∈ tm → n ∈ tm') (bs : List RBranch) :
    doneBranches a sc tm bs = true → doneBranches a' sc tm' bs = true := by
  simp only [doneBranches_eq, List.all_eq_true]
  exact fun hd b hb => done_mono_branch a a' h sc tm tm' htm b (hd b hb)

/-- answering more interrupts never re-opens a condition branch that had ended -/
theorem term_mono (a a' : Answered) (h : ∀ i, a i = true → a' i = true) (bs : List RBranch) :
    ∀ n, n ∈ termIds a bs → n ∈ termIds a' bs :=
  term_mono_of fun b _ => done_mono_branch a a' h _ _ _ (fun _ => id) b

/-- K1 (read from the source on this run): what wakes a waiting branch — a `needs` branch is ready as soon as one named sibling has
ended, the `else` branch when every sibling was skipped (and it is closed once a sibling ended otherwise), and each pass of the step over
its waiting branches (`Step::next`, `Step::review`) resumes every branch that has become ready. These are the code facts behind `opens`
never being empty for an unfinished construct. -/
theorem waiting_branches_are_woken :
    Acts.Gen.needsReadyAnyEnded = true ∧ Acts.Gen.elseReadyAllSkipped = true ∧ Acts.Gen.elseClosedWhenTaken = true ∧
    Acts.Gen.nextWakesAll = true ∧ Acts.Gen.reviewWakesAll = true := by decide

/-- **the recorded wait-cycle findings, as witnesses on the wake-up rules** (`C01|stranded|wait-cycle:*`): with the rules the engine has
(`waiting_branches_are_woken` reads them from the source) two `else` branches wait for each other — each needs *every* sibling skipped,
and a waiting `else` branch is not skipped —, and a `needs` branch that names only the `else` branch waits with it when no condition
holds. Nothing runs, both wait, no rule applies: the step never ends. The deploy accepts such models; the reference interpretation
excludes them by `wf`. -/
theorem wait_cycle_two_else :
    Acts.Wait.stuck [⟨"c", .cond, .skipped⟩, ⟨"e1", .otherwise, .pending⟩, ⟨"e2", .otherwise, .pending⟩] = true := by decide

theorem wait_cycle_needs_on_else :
    Acts.Wait.stuck [⟨"c", .cond, .skipped⟩, ⟨"e", .otherwise, .pending⟩, ⟨"n", .needs ["e"], .pending⟩] = true := by decide

/-- … while the well-formed shapes beside them are not stuck: one `else` branch runs when every sibling was skipped, a `needs` branch over a
condition branch is woken by its ending -/
theorem no_wait_cycle_when_well_formed :
    Acts.Wait.stuck [⟨"c", .cond, .skipped⟩, ⟨"e", .otherwise, .pending⟩] = false ∧
    Acts.Wait.stuck [⟨"c", .cond, .ended⟩, ⟨"e", .otherwise, .pending⟩, ⟨"n", .needs ["c"], .pending⟩] = false := by decide

/-- the monitor is the property: with an empty queue it accepts exactly when every process is finished or waits -/
theorem monitor_iff (procs : List Acts.Spec.QProc) :
    Acts.Spec.progressOK 0 procs = true ↔ ∀ p ∈ procs, p.terminalDelivered = true ∨ p.waitingOnClient = true := by
  simp [Acts.Spec.progressOK]

/-- non-vacuity: a workflow with two parallel condition branches and an else branch, one interrupt answered -/
def exW : RWorkflow := ⟨"w", [.mk "s1" true [.mk "b1" (.cond true) [.mk "s2" true [] [.irq "a1" true, .irq "a2" true]],
  .mk "b2" (.cond false) [.mk "s3" true [] [.irq "a3" true]], .mk "b3" .otherwise [.mk "s4" true [] [.irq "a4" true]]] [],
  .mk "s5" true [] [.irq "a5" true]]⟩
example : exW.opens (fun i => i == "a1") = ["a2"] ∧ exW.done (fun i => i == "a1") = false := by decide
example : exW.opens (fun i => i == "a1" || i == "a2") = ["a5"] := by decide

/-- non-vacuity with `needs`: the workflow is well-formed, `b2` waits for `b1`; nothing answered → the open interrupt is `a1`; after it `a2` -/
def exN : RWorkflow := ⟨"w", [.mk "s1" true [.mk "b1" (.cond true) [.mk "s2" true [] [.irq "a1" true]],
  .mk "b2" (.needs ["b1"]) [.mk "s3" true [] [.irq "a2" true]]] []]⟩
example : exN.wf = true ∧ exN.opens (fun _ => false) = ["a1"] ∧ exN.opens (fun i => i == "a1") = ["a2"] ∧
    exN.done (fun i => i == "a1" || i == "a2") = true := by decide

/-- the hypothesis of `progress` is needed: a `needs` list that names no condition branch strands the interpretation as it strands the engine
(the recorded wait-cycle finding) -/
example : (⟨"w", [.mk "s1" true [.mk "b1" .otherwise [], .mk "b2" (.needs ["b1"]) []] []]⟩ : RWorkflow).wf = false ∧
    (⟨"w", [.mk "s1" true [.mk "b1" .otherwise [], .mk "b2" (.needs ["b1"]) []] []]⟩ : RWorkflow).done (fun _ => true) = false ∧
    (⟨"w", [.mk "s1" true [.mk "b1" .otherwise [], .mk "b2" (.needs ["b1"]) []] []]⟩ : RWorkflow).opens (fun _ => true) = [] := by decide

end Acts.C01
