import ActsModel.Model.Subflow
import ActsModel.Gen.Generate

/-!
# C15 — Sub-process call and return
-/
namespace Acts.C15
open Acts.Gen Acts.Subflow

/-- K1: how a child's ending is reported to the calling act (table translated from `return_to_act` and the action arms) -/
theorem return_table :
    actEnd .completed = .completed ∧ actEnd .error = .error ∧ actEnd .aborted = .aborted ∧ actEnd .skipped = .skipped ∧
    actEnd .submitted = .completed ∧ actEnd .cancelled = .completed ∧ actEnd .backed = .completed ∧ actEnd .removed = .completed := by
  decide

/-- whatever the child's terminal state, the calling act ends in a terminal state -/
theorem return_is_terminal (s : TaskState) : (actEnd s).isCompleted = true := by
  cases s <;> decide

/-- The ways a step leaves a slot: as it was, started, with the child's ending recorded (once, on a started call, a terminal
state), closed (once, with what the recorded ending maps to). What is shown of `Slot.step` below is shown of these four. -/
theorem step_cases {P : Slot → Prop} (sl : Slot) (e : Ev) (same : P sl) (start : P { sl with started := true })
    (ended : ∀ s, sl.started = true → sl.childEnd = none → s.isCompleted = true → P { sl with childEnd := some s })
    (closed : ∀ s, sl.childEnd = some s → sl.closed = none → P { sl with closed := some (actEnd s) }) :
    P (sl.step e) := by
  cases e with
  | start i =>
    simp only [Slot.step]
    split
    · exact same
    · exact start
  | childEnds i s =>
    simp only [Slot.step]
    split
    · rename_i h
      simp only [Bool.and_eq_true, Option.isNone_iff_eq_none] at h
      exact ended s h.1.1 h.1.2 h.2
    · exact same
  | ret i =>
    simp only [Slot.step]
    split
    · exact closed _ ‹_› ‹_›
    · exact same

/-- a call is closed exactly once: once closed, no event changes what it was closed with -/
theorem slot_closed_stable (sl : Slot) (e : Ev) (a : TaskState) (h : sl.closed = some a) : (sl.step e).closed = some a :=
  step_cases (P := fun sl' => sl'.closed = some a) sl e h h (fun _ _ _ _ => h) (fun _ _ hc => by simp [h] at hc)

/-- the child's recorded ending is stable too (a process ends once) -/
theorem slot_childEnd_stable (sl : Slot) (e : Ev) (s : TaskState) (h : sl.childEnd = some s) : (sl.step e).childEnd = some s :=
  step_cases (P := fun sl' => sl'.childEnd = some s) sl e h h (fun _ _ hc => by simp [h] at hc) (fun _ _ _ => h)

/-- invariant of one slot: a closed call carries the state its child's ending maps to; a child that has ended had been started
and ended in a terminal state -/
def SlotInv (sl : Slot) : Prop :=
  (∀ a, sl.closed = some a → ∃ s, sl.childEnd = some s ∧ a = actEnd s) ∧
  (∀ s, sl.childEnd = some s → sl.started = true ∧ s.isCompleted = true)

theorem slot_step_inv (sl : Slot) (e : Ev) (h : SlotInv sl) : SlotInv (sl.step e) := by
  obtain ⟨h1, h2⟩ := h
  refine step_cases sl e ⟨h1, h2⟩ ⟨h1, fun s hs => ⟨rfl, (h2 s hs).2⟩⟩ (fun s hst hce hs => ⟨?_, ?_⟩) (fun s hce _ => ⟨?_, h2⟩)
  · -- the call is still open: closed, it would have a recorded ending
    intro a ha
    obtain ⟨s', hs', _⟩ := h1 a ha
    simp [hce] at hs'
  · intro s' hs'
    cases hs'
    exact ⟨hst, hs⟩
  · intro a ha
    cases ha
    exact ⟨s, hce, rfl⟩

/-- what every slot step preserves holds of every slot throughout a run -/
theorem run_forall {P : Slot → Prop} (hP : ∀ sl e, P sl → P (sl.step e)) (es : List Ev) (ss : List Slot)
    (h : ∀ sl ∈ ss, P sl) : ∀ sl ∈ run ss es, P sl :=
  List.foldlRecOn (motive := fun ss => ∀ sl ∈ ss, P sl) es step h fun ss h e _ sl hsl => by
    obtain ⟨i, hi, rfl⟩ := List.mem_mapIdx.1 hsl
    split
    · exact hP _ e (h _ (List.getElem_mem hi))
    · exact h _ (List.getElem_mem hi)

theorem reachable_inv (n : Nat) (es : List Ev) : ∀ sl ∈ run (List.replicate n {}) es, SlotInv sl :=
  run_forall slot_step_inv es _ fun sl hsl => by simp [List.eq_of_mem_replicate hsl, SlotInv]

/-- **Call and return** (K3: every number of calls, every sequence of start / child-end / return events, in any order, with
repetitions).  In every reachable state a calling act that is closed has a child that has ended, and is closed with the state
that ending maps to — so it stayed open until then. -/
theorem closed_only_after_child_ended (n : Nat) (es : List Ev) (sl : Slot) (hsl : sl ∈ run (List.replicate n {}) es)
    (a : TaskState) (h : sl.closed = some a) : ∃ s, sl.childEnd = some s ∧ s.isCompleted = true ∧ a = actEnd s := by
  have hinv := reachable_inv n es sl hsl
  obtain ⟨s, hs, ha⟩ := hinv.1 a h
  exact ⟨s, hs, (hinv.2 s hs).2, ha⟩

/-- a parent that waits for its calls cannot be done before every child has ended: its terminal event never precedes a child's -/
theorem parent_done_after_children (n : Nat) (es : List Ev) (h : parentDone (run (List.replicate n {}) es) = true) :
    ∀ sl ∈ run (List.replicate n {}) es, sl.childEnd.isSome = true ∧ sl.started = true := by
  intro sl hsl
  have hinv := reachable_inv n es sl hsl
  obtain ⟨a, ha⟩ := Option.isSome_iff_exists.1 (List.all_eq_true.1 h sl hsl)
  obtain ⟨s, hs, _⟩ := hinv.1 a ha
  exact ⟨by simp [hs], (hinv.2 s hs).1⟩

/-- the machine with client endings behaves as the plain one on histories without them -/
theorem run2_base (es : List Ev) (ss : List Slot) : run2 ss (es.map .base) = run ss es := by
  simp only [run2, run, List.foldl_map]; rfl

/-- **the statement at full strength is false of model and engine** (open findings `C15|parent-ends-before-child|…`): a client
`error` on the calling act closes it, and with it the waiting parent, while the child has not ended. The same history on the engine
is the replay recorded with the finding. -/
theorem client_end_precedes_child :
    let ss := run2 (List.replicate 1 {}) [.base (.start 0), .client 0 .error]
    parentDone ss = true ∧ ss.all (fun sl => sl.childEnd.isNone) = true := by
  decide

/-- what is proved instead (`…_partial`): on every history in which no client ends a calling act directly — starts, child endings and
returns in any order and number — the parent is done only after every child has ended -/
theorem parent_done_after_children_partial (n : Nat) (es : List Ev)
    (h : parentDone (run2 (List.replicate n {}) (es.map .base)) = true) :
    ∀ sl ∈ run2 (List.replicate n {}) (es.map .base), sl.childEnd.isSome = true ∧ sl.started = true := by
  rw [run2_base] at h ⊢
  exact parent_done_after_children n es h

/-- a return is delivered: after the child has ended, one `ret` closes the call with the mapped state, whatever else happened before -/
theorem return_closes (sl : Slot) (s : TaskState) (hs : sl.childEnd = some s) (hopen : sl.closed = none) :
    (sl.step (.ret 0)).closed = some (actEnd s) := by
  simp [Slot.step, hs, hopen]

/-- K1: the call switches auto-completion off and hands the child the link back to the calling act -/
theorem call_tables : subflowAutoCompleteOff = true ∧ subflowPassesParentLink = true := by decide

/-- non-vacuity: two calls, events out of order and repeated -/
example : run (List.replicate 2 {}) [.ret 0, .start 0, .childEnds 0 .error, .childEnds 0 .completed, .ret 0, .ret 0, .start 1] =
    [{ started := true, childEnd := some .error, closed := some .error }, { started := true }] := by decide

end Acts.C15
