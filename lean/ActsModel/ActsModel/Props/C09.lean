import ActsModel.Model.MsgStore
import ActsModel.Lemmas.Basic

/-!
# C09 — Acknowledged delivery: at-least-once, bounded retries, silent after ack
All theorems quantify over every store content, every operation (sequence), every clock value and
every configuration `(max, interval, limit)`.
-/
namespace Acts.C09
open Acts.Gen Acts.Msg

/-- K1: the constants the model takes from the source are the ones the property speaks about -/
theorem source_constants : retryStrict = true ∧ staleStrict = true ∧ actedStatus = .completed ∧
    tickSelectsStatus = "created" ∧ storeBeforeHandler = true ∧ noMsgUpdateAction = .push := by decide

theorem stale_iff (c : Cfg) (now : Int) (r : Rec) :
    stale c now r = true ↔ r.status = .created ∧ r.update < now - c.interval := by
  simp [stale, staleStrict]

theorem stale_created {c : Cfg} {now : Int} {r : Rec} (h : stale c now r = true) : r.status = .created :=
  ((stale_iff c now r).mp h).1

theorem mayRetry_iff (c : Cfg) (r : Rec) : mayRetry c r = true ↔ r.retry < c.max := by
  simp [mayRetry, retryStrict]

theorem bump_eq (c : Cfg) (now : Int) (r : Rec) : bump c now r =
    if r.retry < c.max then ({ r with retry := r.retry + 1, update := now }, [⟨r.id, r.content, r.retry + 1⟩])
    else ({ r with status := .error, update := now }, []) := by
  simp only [bump, mayRetry_iff]

theorem bump_id (c : Cfg) (now : Int) (r : Rec) : (bump c now r).1.id = r.id ∧ (bump c now r).1.content = r.content := by
  rw [bump_eq]; split <;> exact ⟨rfl, rfl⟩

-- ------------------------------------------------------------------ one tick

/-- what a tick makes of a record it reaches: a stale one is bumped, any other is left alone -/
def tickOne (c : Cfg) (now : Int) (r : Rec) : Rec × List Dlv := if stale c now r then bump c now r else (r, [])

theorem tickOne_stale {c : Cfg} {now : Int} {r : Rec} (h : stale c now r = true) : tickOne c now r = bump c now r :=
  if_pos h

theorem tickOne_not_stale {c : Cfg} {now : Int} {r : Rec} (h : stale c now r = false) : tickOne c now r = (r, []) := by
  simp [tickOne, h]

theorem mem_tickOne_snd {c : Cfg} {now : Int} {r : Rec} {d : Dlv} (h : d ∈ (tickOne c now r).2) :
    stale c now r = true ∧ r.retry < c.max ∧ d = ⟨r.id, r.content, r.retry + 1⟩ ∧
      (tickOne c now r).1 = { r with retry := r.retry + 1, update := now } := by
  cases hst : stale c now r
  · simp [tickOne_not_stale hst] at h
  · rw [tickOne_stale hst, bump_eq] at h ⊢
    split at h
    · exact ⟨rfl, ‹_›, List.mem_singleton.mp h, by simp [*]⟩
    · cases h

theorem tickGo_zero (c : Cfg) (now : Int) (s : List Rec) : tickGo c now 0 s = (s, []) := by
  induction s with
  | nil => rfl
  | cons r rs ih => simp [tickGo, ih]

/-- A tick rewrites a prefix of the store record by record and leaves the rest as it is; the prefix is the whole
store when the budget covers every stale record. -/
theorem tickGo_eq (c : Cfg) (now : Int) (s : List Rec) : ∀ budget, ∃ s1 s2, s = s1 ++ s2 ∧
    tickGo c now budget s = (s1.map (fun r => (tickOne c now r).1) ++ s2, s1.flatMap fun r => (tickOne c now r).2) ∧
    ((s.filter (stale c now)).length ≤ budget → s2 = []) := by
  induction s with
  | nil => exact fun _ => ⟨[], [], rfl, rfl, fun _ => rfl⟩
  | cons r rs ih =>
    intro budget
    by_cases hst : stale c now r = true
    · cases budget with
      | zero => exact ⟨[], r :: rs, rfl, tickGo_zero .., by simp [hst]⟩
      | succ b =>
        obtain ⟨s1, s2, rfl, h, hb⟩ := ih b
        exact ⟨r :: s1, s2, rfl, by simp [tickGo, hst, h, tickOne], by simpa [hst] using hb⟩
    · obtain ⟨s1, s2, rfl, h, hb⟩ := ih budget
      exact ⟨r :: s1, s2, rfl, by simp [tickGo, hst, h, tickOne], by simpa [hst] using hb⟩

theorem tickGo_of_le {c : Cfg} {now : Int} {s : List Rec} {budget : Nat} (hb : (s.filter (stale c now)).length ≤ budget) :
    tickGo c now budget s = (s.map fun r => (tickOne c now r).1, s.flatMap fun r => (tickOne c now r).2) := by
  obtain ⟨s1, s2, rfl, h, h2⟩ := tickGo_eq c now s budget
  obtain rfl := h2 hb
  simpa using h

/-- every record after a tick is an old record, possibly bumped -/
theorem tick_records {c : Cfg} {now : Int} {budget : Nat} {s : List Rec} {r' : Rec} (h : r' ∈ (tickGo c now budget s).1) :
    r' ∈ s ∨ ∃ r ∈ s, stale c now r = true ∧ r' = (bump c now r).1 := by
  obtain ⟨s1, s2, rfl, heq, -⟩ := tickGo_eq c now s budget
  simp only [heq, List.mem_append, List.mem_map] at h ⊢
  rcases h with ⟨r, hr, rfl⟩ | h
  · cases hst : stale c now r
    · exact .inl (.inl (by rwa [tickOne_not_stale hst]))
    · exact .inr ⟨r, .inl hr, hst, by rw [tickOne_stale hst]⟩
  · exact .inl (.inr h)

/-- a tick touches only stale records: everything else is still in the store, unchanged -/
theorem tick_frame {c : Cfg} {now : Int} {budget : Nat} {s : List Rec} {r : Rec} (hr : r ∈ s) (hns : stale c now r = false) :
    r ∈ (tickGo c now budget s).1 := by
  obtain ⟨s1, s2, rfl, heq, -⟩ := tickGo_eq c now s budget
  simp only [heq, List.mem_append, List.mem_map] at hr ⊢
  exact hr.imp (fun h => ⟨r, h, by rw [tickOne_not_stale hns]⟩) id

/-- (c) every redelivery of a tick carries the id and content of a stored, stale record and a retry count exactly one
larger than the stored one, which was below the maximum; the record with that count is in the new store -/
theorem tick_deliveries {c : Cfg} {now : Int} {budget : Nat} {s : List Rec} {d : Dlv} (h : d ∈ (tickGo c now budget s).2) :
    ∃ r ∈ s, stale c now r = true ∧ r.retry < c.max ∧ d = ⟨r.id, r.content, r.retry + 1⟩ ∧
      { r with retry := r.retry + 1, update := now } ∈ (tickGo c now budget s).1 := by
  obtain ⟨s1, s2, rfl, heq, -⟩ := tickGo_eq c now s budget
  rw [heq] at h ⊢
  obtain ⟨r, hr, hd⟩ := List.mem_flatMap.mp h
  obtain ⟨hst, hlt, rfl, h1⟩ := mem_tickOne_snd hd
  exact ⟨r, List.mem_append_left _ hr, hst, hlt, rfl, List.mem_append_left _ (List.mem_map.mpr ⟨r, hr, h1⟩)⟩

/-- (d) at-least-once: a stale, un-acked record below the retry limit is redelivered by the tick
(as long as the tick's query limit is not exhausted by earlier stale records) -/
theorem tick_at_least_once (c : Cfg) (now : Int) (s : List Rec) :
    ∀ budget, (s.filter (stale c now)).length ≤ budget → ∀ r ∈ s, stale c now r = true → r.retry < c.max →
      (⟨r.id, r.content, r.retry + 1⟩ : Dlv) ∈ (tickGo c now budget s).2 := by
  intro budget hb r hr hst hlt
  rw [tickGo_of_le hb]
  exact List.mem_flatMap.mpr ⟨r, hr, by simp [tickOne_stale hst, bump_eq, hlt]⟩

/-- (e) at the retry limit the stale record is marked `error` (and, by `tick_deliveries`, not delivered) -/
theorem tick_marks_error (c : Cfg) (now : Int) (s : List Rec) :
    ∀ budget, (s.filter (stale c now)).length ≤ budget → ∀ r ∈ s, stale c now r = true → ¬ r.retry < c.max →
      { r with status := .error, update := now } ∈ (tickGo c now budget s).1 := by
  intro budget hb r hr hst hlt
  rw [tickGo_of_le hb]
  exact List.mem_map.mpr ⟨r, hr, by simp [tickOne_stale hst, bump_eq, hlt]⟩

-- ------------------------------------------------------------------ one operation

/-- only a first delivery and a tick invoke the handler -/
theorem mem_step_dlv {c : Cfg} {s : List Rec} {op : Op} {d : Dlv} (hd : d ∈ (step c s op).2) :
    (∃ id pid tid content now, op = .deliver id pid tid content now ∧ d = ⟨id, content, 0⟩) ∨
      ∃ now, op = .tick now ∧ d ∈ (tickGo c now c.limit s).2 := by
  cases op <;> simp only [step, List.mem_singleton, List.not_mem_nil] at hd
  · exact .inl ⟨_, _, _, _, _, rfl, hd⟩
  · exact .inr ⟨_, rfl, hd⟩

/-- (b) the retry count never exceeds the configured maximum -/
def RetryBounded (c : Cfg) (s : List Rec) : Prop := ∀ r ∈ s, r.retry ≤ c.max

theorem step_retry_bounded (c : Cfg) (s : List Rec) (op : Op) (h : RetryBounded c s) :
    RetryBounded c (step c s op).1 := by
  cases op with
  | deliver id pid tid content now =>
    exact List.forall_mem_append.mpr ⟨h, List.forall_mem_singleton.mpr (Nat.zero_le _)⟩
  | tick now =>
    intro r' hr'
    rcases tick_records hr' with h1 | ⟨r, hr, -, rfl⟩
    · exact h _ h1
    · have := h r hr
      rw [bump_eq]; split
      · exact Nat.succ_le_of_lt ‹_›
      · exact this
  | ack id now => exact List.forall_mem_map_ite h fun _ _ _ hr => hr
  | acted pid tid now => exact List.forall_mem_map_ite h fun _ _ _ hr => hr
  | redo now => exact List.forall_mem_map_ite h fun _ _ _ _ => Nat.zero_le _
  | clear pid => exact fun r hr => h r (List.mem_filter.mp hr).1
  | rm id => exact fun r hr => h r (List.mem_filter.mp hr).1

/-- and every delivered retry count is at most the maximum -/
theorem step_delivery_bounded (c : Cfg) (s : List Rec) (op : Op) : ∀ d ∈ (step c s op).2, d.retry ≤ c.max := by
  intro d hd
  rcases mem_step_dlv hd with ⟨_, _, _, _, _, -, rfl⟩ | ⟨now, -, hd⟩
  · exact Nat.zero_le _
  · obtain ⟨r, -, -, hlt, rfl, -⟩ := tick_deliveries hd
    exact hlt

/-- (a) every handler invocation is for a message that is in the store at that moment (stored before delivered) -/
theorem step_delivered_is_stored (c : Cfg) (s : List Rec) (op : Op) :
    ∀ d ∈ (step c s op).2, ∃ r ∈ (step c s op).1, r.id = d.id ∧ r.content = d.content ∧ r.retry = d.retry := by
  intro d hd
  rcases mem_step_dlv hd with ⟨id, pid, tid, content, now, rfl, rfl⟩ | ⟨now, rfl, hd⟩
  · exact ⟨_, List.mem_append_right _ (List.mem_singleton_self _), rfl, rfl, rfl⟩
  · obtain ⟨r, -, -, -, rfl, hmem⟩ := tick_deliveries hd
    exact ⟨_, hmem, rfl, rfl, rfl⟩

/-- a message is closed once acknowledged or once its task has been acted on -/
def closed (r : Rec) : Prop := r.status = .acked ∨ r.status = .completed

/-- every record of this id (if any is left) is closed -/
def ClosedId (s : List Rec) (id : String) : Prop := ∀ r ∈ s, r.id = id → closed r

def _root_.Acts.Msg.Op.delivers (id : String) : Op → Prop
  | .deliver id' _ _ _ _ => id' = id
  | _ => False

theorem not_stale_of_closed {c : Cfg} {now : Int} {r : Rec} (h : closed r) : stale c now r = false := by
  rcases h with h | h <;> simp [stale, h]

/-- (f) one step: a closed message stays closed and is not handed to any handler, whatever the operation
(first deliveries of *other*, fresh ids included) -/
theorem step_closed_silent (c : Cfg) (s : List Rec) (op : Op) (id : String) (h : ClosedId s id)
    (hfresh : ¬ op.delivers id) : ClosedId (step c s op).1 id ∧ ∀ d ∈ (step c s op).2, d.id ≠ id := by
  constructor
  · cases op with
    | deliver id' pid tid content now =>
      exact List.forall_mem_append.mpr ⟨h, List.forall_mem_singleton.mpr fun hid => absurd hid hfresh⟩
    | tick now =>
      intro r' hr' hid
      rcases tick_records hr' with h1 | ⟨r, hr, hst, rfl⟩
      · exact h r' h1 hid
      · rw [(bump_id c now r).1] at hid
        rw [not_stale_of_closed (h r hr hid)] at hst; cases hst
    | ack id' now => exact List.forall_mem_map_ite h fun _ _ _ _ _ => .inl rfl
    | acted pid tid now => exact List.forall_mem_map_ite h fun _ _ _ _ _ => .inr rfl
    | redo now =>
      -- a closed record is not in `error`, so `redo` leaves it alone
      refine List.forall_mem_map_ite h fun r _ he hcl hid => absurd (hcl hid) ?_
      simp [closed, eq_of_beq he]
    | clear pid => exact fun r hr => h r (List.mem_filter.mp hr).1
    | rm id' => exact fun r hr => h r (List.mem_filter.mp hr).1
  · intro d hd hid
    rcases mem_step_dlv hd with ⟨id', _, _, _, _, rfl, rfl⟩ | ⟨now, rfl, hd⟩
    · exact hfresh hid
    · obtain ⟨r, hr, hst, -, rfl, -⟩ := tick_deliveries hd
      rw [not_stale_of_closed (h r hr hid)] at hst; cases hst

-- ------------------------------------------------------------------ every operation sequence

/-- what every operation preserves of the store and guarantees of its deliveries holds of a whole run -/
theorem run_inv (c : Cfg) {I : List Rec → Prop} {D : Dlv → Prop} (ops : List Op)
    (hstep : ∀ s, ∀ op ∈ ops, I s → I (step c s op).1 ∧ ∀ d ∈ (step c s op).2, D d) :
    ∀ s, I s → I (run c s ops).1 ∧ ∀ d ∈ (run c s ops).2, D d := by
  induction ops with
  | nil => exact fun s h => ⟨h, nofun⟩
  | cons op ops ih =>
    intro s h
    have h1 := hstep s op (List.mem_cons_self ..) h
    have h2 := ih (fun s o ho => hstep s o (List.mem_cons_of_mem _ ho)) _ h1.1
    exact ⟨h2.1, fun d hd => (List.mem_append.mp hd).elim (h1.2 d) (h2.2 d)⟩

/-- (b) for every history: neither a stored nor a delivered retry count ever exceeds the maximum -/
theorem run_bounded (c : Cfg) (ops : List Op) :
    ∀ s, RetryBounded c s → RetryBounded c (run c s ops).1 ∧ ∀ d ∈ (run c s ops).2, d.retry ≤ c.max :=
  run_inv c ops fun s op _ h => ⟨step_retry_bounded c s op h, step_delivery_bounded c s op⟩

theorem run_retry_bounded (c : Cfg) (ops : List Op) : ∀ s, RetryBounded c s → RetryBounded c (run c s ops).1 :=
  fun s h => (run_bounded c ops s h).1

/-- (f) for every history: once acknowledged or acted on, a message is never delivered again and never leaves
the closed statuses, as long as its id is not reused for a new message -/
theorem run_closed_silent (c : Cfg) (id : String) (ops : List Op) :
    ∀ s, ClosedId s id → (∀ op ∈ ops, ¬ op.delivers id) →
      ClosedId (run c s ops).1 id ∧ ∀ d ∈ (run c s ops).2, d.id ≠ id :=
  fun s h hf => run_inv c ops (fun s op hop h => step_closed_silent c s op id h (hf op hop)) s h

/-- ack closes: after `ack id` every record of that id is closed (so `run_closed_silent` applies from then on) -/
theorem ack_closes (c : Cfg) (s : List Rec) (id : String) (now : Int) : ClosedId (step c s (.ack id now)).1 id := by
  refine List.forall_mem_map.mpr fun r _ => ?_
  split
  · exact fun _ => .inl rfl
  · next hc => intro hid; simp [hid] at hc

/-- an accepted action on the task closes every stored message of that task -/
theorem acted_closes (c : Cfg) (s : List Rec) (pid tid : String) (now : Int) :
    ∀ r ∈ (step c s (.acted pid tid now)).1, r.pid = pid → r.tid = tid → closed r := by
  refine List.forall_mem_map.mpr fun r _ => ?_
  split
  · exact fun _ _ => .inr rfl
  · next hc => intro hp ht; simp [hp, ht] at hc

/-- (e) an `error` record is untouched by a tick, and a tick only ever delivers for records that are `created` -/
theorem error_silent_tick (c : Cfg) (now : Int) (s : List Rec) (r : Rec) (hr : r ∈ s) (he : r.status = .error) :
    r ∈ (step c s (.tick now)).1 ∧
      ∀ d ∈ (step c s (.tick now)).2, ∃ r1 ∈ s, r1.id = d.id ∧ r1.status = .created := by
  refine ⟨tick_frame hr (by simp [stale, he]), fun d hd => ?_⟩
  obtain ⟨r1, hr1, hst, -, rfl, -⟩ := tick_deliveries hd
  exact ⟨r1, hr1, rfl, stale_created hst⟩

/-- `redo` resets every error record to created with retry 0 -/
theorem redo_resets (c : Cfg) (s : List Rec) (now : Int) (r : Rec) (hr : r ∈ s) (he : r.status = .error) :
    { r with status := .created, retry := 0, update := now } ∈ (step c s (.redo now)).1 :=
  List.mem_map.mpr ⟨r, hr, by simp [he]⟩

/-- non-vacuity: a run in which a message is delivered, redelivered twice, hits the limit, is marked error,
redone and finally acknowledged -/
def exCfg : Cfg := ⟨2, 100, 300⟩
def exOps : List Op := [.deliver "m" "p" "t" 7 1000, .tick 1200, .tick 1400, .tick 1600, .tick 1800, .redo 1900,
  .tick 2100, .ack "m" 2200, .tick 5000]
example : (run exCfg [] exOps).2 = [⟨"m", 7, 0⟩, ⟨"m", 7, 1⟩, ⟨"m", 7, 2⟩, ⟨"m", 7, 1⟩] := by decide
example : ((run exCfg [] exOps).1.map (·.status)) = [.acked] := by decide

end Acts.C09

