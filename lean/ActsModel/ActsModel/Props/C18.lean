import ActsModel.Model.Chan
import ActsModel.Lemmas.Basic

/-!
# C18 — Channels deliver exactly the messages their filters select
-/
namespace Acts.C18
open Acts.Gen Acts.Glob Acts.Chan

-- ------------------------------------------------------------------ the matcher (K2: all patterns of a form, all strings)

theorem starLoop_of_nil (f : List Char → Bool) (s : List Char) (h : f [] = true) : starLoop f s = true := by
  induction s with
  | nil => simpa [starLoop]
  | cons c s ih => simp [starLoop, ih]

/-- `*` matches every string: a channel with default options receives everything -/
theorem star_all (s : List Char) : matchFlat [.star] s = true := by
  simp only [matchFlat]
  exact starLoop_of_nil _ s (by simp)

def lits (cs : List Char) : List FTok := cs.map .lit

/-- a pattern that begins with literals matches the strings that begin with them and go on with a match of the rest -/
theorem lits_append (cs : List Char) (ts : List FTok) (s : List Char) :
    matchFlat (lits cs ++ ts) s = true ↔ ∃ s', s = cs ++ s' ∧ matchFlat ts s' = true := by
  induction cs generalizing s with
  | nil => simp [lits]
  | cons c cs ih =>
    cases s with
    | nil => simp [lits, matchFlat]
    | cons d s =>
      have := ih s
      simp only [lits] at this
      simp [lits, matchFlat, this, and_assoc, @eq_comm _ c]

/-- a literal pattern matches exactly itself -/
theorem literal_iff (cs s : List Char) : matchFlat (lits cs) s = true ↔ s = cs := by
  simpa [matchFlat] using lits_append cs [] s

/-- `?` matches exactly the one-character strings -/
theorem question_one (s : List Char) : matchFlat [.any] s = true ↔ s.length = 1 := by
  cases s with
  | nil => simp [matchFlat]
  | cons c s => cases s <;> simp [matchFlat]

/-- a class matches exactly the single characters inside (or, negated, outside) its ranges -/
theorem class_member (neg : Bool) (rs : List (Char × Char)) (c : Char) :
    matchFlat [.cls neg rs] [c] = (inRanges c rs != neg) := by
  simp [matchFlat]

/-- literal prefix followed by `*`: exactly the strings with that prefix (`key1*`) -/
theorem prefix_star (cs s : List Char) : matchFlat (lits cs ++ [.star]) s = true ↔ cs.isPrefixOf s = true := by
  simp [lits_append, star_all, List.isPrefixOf_iff_prefix, List.IsPrefix, @eq_comm _ s]


/-- an alternation is the union of its alternatives -/
theorem alt_union (a b : List FTok) (s : List Char) :
    matchToks [.alt [a, b]] s = (matchFlat a s || matchFlat b s) := by
  simp [matchToks, expand]

theorem expand_flat (r : List FTok) : expand (r.map .flat) = [r] := by
  induction r with
  | nil => rfl
  | cons t r ih => simp [expand, ih]

/-- in general: a string matches `{a₁,…,aₙ}rest` iff it matches some `aᵢ rest` -/
theorem alt_any (alts : List (List FTok)) (rest : List FTok) (s : List Char) :
    matchToks (.alt alts :: rest.map .flat) s = alts.any (fun a => matchFlat (a ++ rest) s) := by
  simp [matchToks, expand, expand_flat, List.any_flatMap]

-- ------------------------------------------------------------------ the channel filter

/-- K1 over the shape read from `is_match`: type ∧ state ∧ (tag ∨ model tag) ∧ key ∧ uses -/
theorem match_iff (p : Pats) (m : MsgFields) :
    isMatch p m = (matchToks (patOf p "type") (fieldOf m "type") &&
      matchToks (patOf p "state") (fieldOf m "state") &&
      (matchToks (patOf p "tag") (fieldOf m "tag") || matchToks (patOf p "tag") (fieldOf m "model.tag")) &&
      matchToks (patOf p "key") (fieldOf m "key") &&
      matchToks (patOf p "uses") (fieldOf m "uses")) := by
  simp [isMatch, chanMatchShape, Bool.and_assoc]

/-- K1: the default options are `*` for all five patterns … -/
theorem defaults_are_star : chanDefaults = [("type", "*"), ("state", "*"), ("tag", "*"), ("key", "*"), ("uses", "*")] := by
  decide

def starPats : Pats := [("type", [.flat .star]), ("state", [.flat .star]), ("tag", [.flat .star]), ("key", [.flat .star]),
  ("uses", [.flat .star])]

/-- … so a channel with default options receives every message -/
theorem default_receives_all (m : MsgFields) : isMatch starPats m = true := by
  have h : ∀ s, matchToks [.flat .star] s = true := by
    intro s; simp [matchToks, expand, star_all]
  simp [match_iff, patOf, starPats, List.lookup, h]

-- ------------------------------------------------------------------ handler maps (K3)

variable {H : Type}

/-- ids of a map -/
def keys (m : HMap H) : List String := m.map (·.1)

theorem lookup_remove (m : HMap H) (k k' : String) : (m.remove k).lookup k' = if k' = k then none else m.lookup k' := by
  simp [HMap.remove, List.lookup_filter_fst (· != k)]

theorem lookup_register (m : HMap H) (k k' : String) (h : H) :
    (m.register k h).lookup k' = if k' = k then some h else m.lookup k' := by
  simp only [HMap.register, List.lookup_append, lookup_remove, List.lookup_cons_eq_ite]
  split <;> simp

/-- closing removes that id from a map and nothing else -/
theorem remove_only (m : HMap H) (k k' : String) :
    (m.remove k).lookup k = none ∧ (k' ≠ k → (m.remove k).lookup k' = m.lookup k') := by
  exact ⟨by simp [lookup_remove], fun hne => by simp [lookup_remove, hne]⟩

/-- re-registering an id replaces the previous handler: afterwards the id has exactly one handler, the new one -/
theorem register_replaces (m : HMap H) (k : String) (h : H) :
    (m.register k h).lookup k = some h ∧ ((m.register k h).filter (·.1 == k)).length = 1 := by
  constructor
  · simp [lookup_register]
  · simp [HMap.register, HMap.remove, List.filter_append, List.filter_filter]

/-- registering one id leaves every other id's handler alone -/
theorem register_frame (m : HMap H) (k k' : String) (h : H) (hne : k' ≠ k) :
    (m.register k h).lookup k' = m.lookup k' := by
  simp [lookup_register, hne]

/-- a handler registered under an id stays the only one however often the id is registered again -/
theorem register_twice (m : HMap H) (k : String) (h1 h2 : H) :
    ((m.register k h1).register k h2).lookup k = some h2 ∧
    (((m.register k h1).register k h2).filter (·.1 == k)).length = 1 :=
  register_replaces _ k h2

/-- K1: `Emitter::remove` erases the id from all four maps -/
theorem remove_covers_all_maps : ∀ name ∈ ["messages", "starts", "completes", "errors"], removeMaps.contains name = true := by
  decide

theorem emitter_remove_all (e : Emitter H) (k : String) :
    (e.remove k).messages.lookup k = none ∧ (e.remove k).starts.lookup k = none ∧
    (e.remove k).completes.lookup k = none ∧ (e.remove k).errors.lookup k = none := by
  simp (disch := decide) only [Emitter.remove, remove_covers_all_maps, lookup_remove, ↓reduceIte, and_self]

/-- K1: registration replaces (`and_modify(|v| *v = f)`) in all four maps -/
theorem register_table : registerReplaces = true ∧ registerMaps.length = 4 := by decide

/-- non-vacuity -/
example : matchToks [.alt [lits "act".toList, lits "step".toList]] "step".toList = true := by decide
example : matchFlat (lits "k".toList ++ [.star]) "k1".toList = true ∧ matchFlat (lits "k".toList ++ [.star]) "x".toList = false := by decide

end Acts.C18
