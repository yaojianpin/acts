import ActsModel.Gen.Emit
import ActsModel.Gen.Fields
import ActsModel.Gen.Image
import ActsModel.Model.Image

/-!
# C11 — The store always holds a complete image of what the engine knows
The proof-level content is about *what a row can hold* and *when the task event writes it*; that every
in-memory write is followed by a row write before the next quiescent point is decided on the engine
(live dump vs stored rows after every operation, both back ends).
-/
namespace Acts.C11
open Acts.Gen

/-- K1 (`on_task`): the row is written first, then the hooks run, then the message is built — a handler that reacts to a message
finds the row in the store -/
theorem upsert_precedes_message : onTaskOrder = ["upsert", "hooks", "message"] := by decide

/-- K1: a task row has a column for everything the property compares, and so has a process row -/
theorem rows_carry_the_image :
    (∀ f ∈ ["state", "prev", "data", "err", "start_time", "end_time", "hooks", "node_data", "tid", "pid"], f ∈ recordFields .tasks) ∧
    (∀ f ∈ ["state", "err", "env", "model", "start_time", "end_time"], f ∈ recordFields .procs) := by decide

/-- K1: and both back ends keep every one of these columns (the in-memory mappers used to drop `err`) -/
theorem image_columns_survive :
    (∀ f ∈ recordFields .tasks, (memDoc .tasks).lookup f = some f) ∧ (∀ f ∈ recordFields .procs, (memDoc .procs).lookup f = some f) ∧
    (∀ f ∈ recordFields .tasks, ∃ col, (sqlFromRow .tasks).lookup f = some col ∧ (sqlInsert .tasks).lookup col = some f) ∧
    (∀ f ∈ recordFields .procs, ∃ col, (sqlFromRow .procs).lookup f = some col ∧ (sqlInsert .procs).lookup col = some f) := by
  decide

-- ------------------------------------------------------------------ the write-through discipline

open Acts.Image

theorem apply_synced {R : Type} (s : Sys R) (w : Write R) (h : Synced s) (hp : w.persisted = true) : Synced (s.apply w) := by
  intro k
  simp only [Sys.apply, hp, ↓reduceIte]
  split
  · rfl
  · exact h k

/-- **Write-through** (K3: every sequence of writes).  If every write site is followed by its row write, the store equals the
live image between any two operations. -/
theorem run_synced {R : Type} (s : Sys R) (ws : List (Write R)) (h : Synced s) (hp : ∀ w ∈ ws, w.persisted = true) : Synced (s.run ws) :=
  List.foldlRecOn ws Sys.apply h fun s hs w hw => apply_synced s w hs (hp w hw)

/-- the hypothesis is needed: one site without its row write leaves the store behind (the shape of every C11 defect repaired) -/
theorem unpersisted_write_lags :
    let s : Sys Nat := { live := fun _ => 0, store := fun _ => 0 }
    let s' := s.apply { key := "t", f := fun n => n + 1, persisted := false }
    s'.live "t" = 1 ∧ s'.store "t" = 0 := by
  simp [Sys.apply]

/-- and a later persisted write of the same record repairs it (why such defects hide behind the next task event) -/
theorem next_persisted_write_repairs {R : Type} (s : Sys R) (w : Write R) (hp : w.persisted = true) :
    (s.apply w).store w.key = (s.apply w).live w.key := by
  simp [Sys.apply, hp]

/-- K1: every known site that changes a task or a process outside a task event is followed by its row write in the source
(a removed or reordered `persist` turns an entry to `false` and this theorem stops checking) -/
theorem every_site_persists : ∀ site ∈ Acts.Gen.persistSites, site.2 = true := by decide

theorem sites_known : Acts.Gen.persistSites.length = 10 := by decide

end Acts.C11
