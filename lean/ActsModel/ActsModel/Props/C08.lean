import ActsModel.Spec.Stream
import ActsModel.Spec.Lifecycle
import ActsModel.Lemmas.Stream

/-!
# C08 — Message stream is a faithful, ordered image of task lifecycles
-/
namespace Acts.C08
open Acts.Gen Acts.Spec

/-- K1 (`on_task` predicate read from the source): a message is generated iff the task is neither pending nor running and its
emission is not disabled -/
theorem emit_table (s : TaskState) (disabled : Bool) :
    emitPred s disabled = true ↔ (s ≠ .pending ∧ s ≠ .running ∧ disabled = false) := by
  cases s <;> cases disabled <;> decide

/-- K1: the message is sent only when the hooks left the state as it was (a task moved on by its own catch has been
reported by the hook's own path; without this test an empty catch produced the completion message twice) -/
theorem unchanged_state_required : emitNeedsUnchangedState = true := by decide

/-- K1: what a message says about the state: `created` for the created class (and only for it among the emitting states),
the task's own terminal state otherwise -/
theorem message_state_table (s : TaskState) :
    (stage s = 1 → (msgStateOf s).toStr = "created") ∧
    (stage s = 3 → (msgStateOf s).toStr = s.toStr) ∧
    (stage s = 3 → terminalMsgStates.contains (msgStateOf s).toStr = true) ∧
    (stage s = 1 → terminalMsgStates.contains (msgStateOf s).toStr = false) := by
  cases s <;> decide

/-- K1: a task in the created class or in a terminal state passes the predicate when enabled — so every start and every
ending of a reporting task is announced (pending is the one created-class state that stays silent: only branches take it) -/
theorem announce_table (s : TaskState) (h : s ≠ .pending) : (stage s = 1 ∨ stage s = 3) → emitPred s false = true := by
  cases s <;> simp_all [stage, emitPred, TaskState.isPending, TaskState.isRunning]

/-- the monitor lets no second terminal message of a task pass -/
theorem monitor_rejects_second_terminal (st : SState) (i : Nat) (m : SMsg) (t : STask)
    (hfind : st.tasks.find? (·.tid == m.tid) = some t) (hd : genDescribes st t m = none) (hterm : terminalMsgStates.contains m.state = true)
    (hone : t.terminal ≥ 1) : (streamStep st i (.gen m)).2 = some (i, "second-terminal-message", m.tid) := by
  simp only [streamStep, hfind, hd, genOrdered, SMsg.isTerm, hterm, hone, ↓reduceIte, Option.map_some]

/-- the monitor lets no message with a reused id pass -/
theorem monitor_rejects_duplicate_id (st : SState) (i : Nat) (m : SMsg) (t : STask)
    (hfind : st.tasks.find? (·.tid == m.tid) = some t) (hid : st.mids.contains m.mid = true) :
    (streamStep st i (.gen m)).2 = some (i, "duplicate-message-id", m.tid) := by
  simp only [streamStep, hfind, genDescribes, hid, ↓reduceIte]

/-- **message ids are unique** (K3, every stream): the ids of the generated messages of a stream the monitor accepts are pairwise distinct -/
theorem accepted_ids_unique (pid : String) (evs : List SEv) (h : streamMonitor { pid := pid } 0 evs = none) : (genMids evs).Nodup := by
  have ⟨h1, h2⟩ := accepted_mids (streamMonitor_eq .. ▸ h) List.nodup_nil
  rw [h1, List.append_nil] at h2
  exact (List.reverse_perm _).nodup_iff.mp h2

/-- **at most one created and at most one terminal message per task, created first** (K3, every stream and every task): in a stream
the monitor accepts (tasks announced with empty counters, as the driver builds them) each task has at most one terminal message, at
most one created message, and no terminal message of the task precedes its created message -/
theorem accepted_once_per_task (pid : String) (evs : List SEv) (x : Nat) (h : streamMonitor { pid := pid } 0 evs = none)
    (hw : ∀ e ∈ evs, wfEv e) :
    (evs.filter (isTermGen x)).length ≤ 1 ∧ (evs.filter (isCreatedGen x)).length ≤ 1 ∧
    ∀ pre e post, evs = pre ++ e :: post → isCreatedGen x e = true → (pre.filter (isTermGen x)).length = 0 := by
  rw [streamMonitor_eq] at h
  have hstep {s j e} (he : e ∈ evs) (hp : (streamStep s j e).2 = none) := streamStep_pass_counts x hp (hw e he)
  -- `0 +`: the counters of the empty start state, as `Mon.count_le_one` states its bound
  have ht : 0 + (evs.filter (isTermGen x)).length ≤ 1 :=
    Mon.count_le_one (c := (seenTerm · x)) h (fun _ _ _ he hp => (hstep he hp).1) (Nat.zero_le 1)
  have hc : 0 + (evs.filter (isCreatedGen x)).length ≤ 1 :=
    Mon.count_le_one (c := (seenCreated · x)) h (fun _ _ _ he hp => (hstep he hp).2.1) (Nat.zero_le 1)
  refine ⟨by omega, by omega, ?_⟩
  rintro pre e post rfl hcr
  -- the created message passed on the state after `pre`, whose terminal counter for `x` is the number of terminal messages in `pre`
  have ⟨hpre, hp⟩ := Mon.pass_at h
  have hn : seenTerm _ x = 0 + _ :=
    Mon.count_run (c := (seenTerm · x)) hpre fun _ _ _ he hp => (hstep (List.mem_append_left _ he) hp).1.1
  have := (hstep (by simp) hp).2.2 hcr
  omega

/-- **every message describes its task** (K3, every stream): a generated message of an accepted stream belongs to a task the stream has
announced, which is not a branch, and carries that task's pid, node id, type, uses and — through `msgStateOf` — the state the task has at
that point of the stream; a created message of a child comes after the created message of its reporting parent -/
theorem accepted_message_describes_task (pid : String) (pre post : List SEv) (m : SMsg)
    (h : streamMonitor { pid := pid } 0 (pre ++ .gen m :: post) = none) :
    ∃ t, recOf (streamRun { pid := pid } 0 pre) m.tid = some t ∧ t.kind ≠ "branch" ∧
      m.pid = pid ∧ m.nid = t.nid ∧ m.type = t.kind ∧ m.uses = t.uses ∧
      m.state = (msgStateOf t.state).toStr ∧
      (m.isTerm = false → ∀ p, sParent (streamRun { pid := pid } 0 pre).tasks t = some p → reports p = true → isMsgAct p = false → p.created ≥ 1) := by
  rw [streamMonitor_eq] at h
  rw [streamRun_eq]
  have ⟨hpre, hp⟩ := Mon.pass_at h
  have ⟨t, hf, hd, ho⟩ := streamStep_gen_pass.mp hp
  have ⟨_, a2, a3, a4, a5, a6, a7⟩ := genDescribes_none.mp hd
  have hpid := Mon.run_inv (Inv := (·.pid = pid)) hpre (fun s j e _ hs _ => (streamStep_pid s j e).trans hs) rfl
  refine ⟨t, hf, a2, a3.trans hpid, a4, a5, a6, a7, fun hterm => ?_⟩
  have := genOrdered_none.mp ho
  rw [if_neg (by simp [hterm])] at this
  exact this.2.2.2

/-- **nothing is missing at the end of a run** (K3, every stream): where an accepted stream marks the end of a run, every reporting task
(workflow, step, interrupt act, message act) that got past its initialisation has had its created message (message acts have none), and
every one that has ended has had its terminal message -/
theorem accepted_nothing_missing (pid : String) (pre post : List SEv) (h : streamMonitor { pid := pid } 0 (pre ++ .done :: post) = none) :
    ∀ t ∈ (streamRun { pid := pid } 0 pre).tasks, reports t = true →
      (isMsgAct t = false → t.everCreated = true → t.created ≥ 1) ∧ (t.state.isCompleted = true → t.terminal ≥ 1) := by
  rw [streamMonitor_eq] at h
  rw [streamRun_eq]
  exact streamStep_done_pass _ _ (Mon.pass_at h).2

/-- non-vacuity: created then completed for a step is accepted; a second completed is not -/
def exNew : SEv := .new { tid := 1, nid := "s1", kind := "step", uses := "", level := 1, prev := some 0 }
def exRoot : SEv := .new { tid := 0, nid := "m", kind := "workflow", uses := "", level := 0, prev := none }
example : streamMonitor { pid := "p" } 0 [exRoot, .tr 0 .ready, .gen ⟨0, "m0", "created", "workflow", "m", "m", "", "p"⟩, exNew, .tr 1 .ready,
    .gen ⟨1, "m1", "created", "step", "s1", "s1", "", "p"⟩, .tr 1 .running, .tr 1 .completed,
    .gen ⟨1, "m2", "completed", "step", "s1", "s1", "", "p"⟩] = none := by decide
example : (streamMonitor { pid := "p" } 0 [exRoot, .tr 0 .ready, .gen ⟨0, "m0", "created", "workflow", "m", "m", "", "p"⟩, exNew, .tr 1 .completed,
    .gen ⟨1, "m2", "completed", "step", "s1", "s1", "", "p"⟩, .gen ⟨1, "m3", "completed", "step", "s1", "s1", "", "p"⟩]).isSome = true := by decide

end Acts.C08
