import ActsModel.Lemmas.Ref
import ActsModel.Gen.Branch
import ActsModel.Lemmas.Needs

/-!
# C04 — Control flow conforms to the YAML: order, branch selection, skips
The reference interpretation `Spec/Ref.lean` is a function of the workflow, the condition values
and the answered set only — `deterministic` is true by construction (no schedule or thread-count
argument exists).  The theorems below are the laws the property names; the engine is compared with
the interpretation node by node at every quiescent point, under every release order the harness draws.
-/
namespace Acts.C04
open Acts.Ref

/-- K1 (`Branch::init`, `Task::is_ready`, `Step::next`, `Step::review` read from the source on this run): the rules the reference
interpretation of branches rests on. A branch with `needs` waits before its own `if` is looked at and is ready as soon as one named
sibling has ended (skipped included); a failing condition skips the branch, as does a branch with neither `if` nor `else`; the `else`
branch is ready when every sibling was skipped, is closed once a sibling has ended otherwise, and runs at once when it has no siblings;
a pass of the step over its waiting branches resumes every one that has become ready. -/
theorem branch_rules :
    Acts.Gen.needsWaitBeforeIf = true ∧ Acts.Gen.needsReadyAnyEnded = true ∧ Acts.Gen.needsRuleBeforeElseRule = true ∧
    Acts.Gen.condFalseSkips = true ∧ Acts.Gen.plainBranchSkipped = true ∧ Acts.Gen.loneElseRuns = true ∧
    Acts.Gen.elseReadyAllSkipped = true ∧ Acts.Gen.elseClosedWhenTaken = true ∧
    Acts.Gen.nextWakesAll = true ∧ Acts.Gen.reviewWakesAll = true := by decide

/-- whether a `needs` list is satisfied depends on the set of ended siblings only -/
theorem any_contains_congr (ns : List String) {tm tm' : List String} (h : ∀ n, n ∈ tm ↔ n ∈ tm') :
    ns.any (tm.contains ·) = ns.any (tm'.contains ·) := by
  congr 1
  funext n
  simp only [List.contains_eq_mem, h n]

theorem doneBranch_congr (a : Answered) (sc : Bool) {tm tm' : List String} (h : ∀ n, n ∈ tm ↔ n ∈ tm') :
    doneBranch a sc tm = doneBranch a sc tm' := by
  funext ⟨i, g, ss⟩
  cases g <;> simp only [doneBranch, any_contains_congr _ h]

theorem opensBranch_congr (a : Answered) (sc : Bool) {tm tm' : List String} (h : ∀ n, n ∈ tm ↔ n ∈ tm') :
    opensBranch a sc tm = opensBranch a sc tm' := by
  funext ⟨i, g, ss⟩
  cases g <;> simp only [opensBranch, any_contains_congr _ h]

theorem statesBranch_congr (a : Answered) (sc sd : Bool) {tm tm' : List String} (h : ∀ n, n ∈ tm ↔ n ∈ tm') :
    statesBranch a sc sd tm = statesBranch a sc sd tm' := by
  funext ⟨i, g, ss⟩
  cases g <;> simp only [statesBranch, any_contains_congr _ h]

theorem holdingDone_congr (a : Answered) {tm tm' : List String} (h : ∀ n, n ∈ tm ↔ n ∈ tm') :
    holdingDone a tm = holdingDone a tm' := by
  funext ⟨i, g, ss⟩
  cases g with
  | cond hc => cases hc <;> rfl
  | otherwise => rfl
  | needs ns => simp only [holdingDone, any_contains_congr _ h]

/-- the branches of a step as a set: permuting them, and replacing `tm` by a list with the same members, changes nothing but the order -/
theorem branches_perm (a : Answered) (sc sd : Bool) {tm tm' : List String} (hm : ∀ n, n ∈ tm ↔ n ∈ tm') {bs bs' : List RBranch}
    (h : bs.Perm bs') :
    doneBranches a sc tm bs = doneBranches a sc tm' bs' ∧
    (opensBranches a sc tm bs).Perm (opensBranches a sc tm' bs') ∧
    (statesBranches a sc sd tm bs).Perm (statesBranches a sc sd tm' bs') := by
  simp only [doneBranches_eq, opensBranches_eq, statesBranches_eq, doneBranch_congr a sc hm, opensBranch_congr a sc hm,
    statesBranch_congr a sc sd hm]
  exact ⟨h.all_eq, h.flatMap_right _, h.flatMap_right _⟩

/-- **the result does not depend on the declaration order of branches**: permuting the branches of a step changes neither
whether the step is finished, nor (up to order) the interrupts it waits on, nor the nodes that ran and their states -/
theorem perm_branches (a : Answered) (i : String) (c : Bool) (as : List RAct) {bs bs' : List RBranch} (h : bs.Perm bs') :
    doneStep a (.mk i c bs as) = doneStep a (.mk i c bs' as) ∧
    (opensStep a (.mk i c bs as)).Perm (opensStep a (.mk i c bs' as)) ∧
    (statesStep a (.mk i c bs as)).Perm (statesStep a (.mk i c bs' as)) := by
  -- what the step hands to its branches does not see their order
  have hm : ∀ n, n ∈ termIds a bs ↔ n ∈ termIds a bs' := fun n => by
    simp only [termIds_eq, (h.flatMap_right _).mem_iff]
  have hc : stepTaken bs' as = stepTaken bs as := by simp only [stepTaken, anyCondHolds_eq, h.any_eq]
  have hsd : stepTakenDone a bs' as = stepTakenDone a bs as := by
    simp only [stepTakenDone, anyHoldingDone_eq, holdingDone_congr a hm, h.any_eq]
  obtain ⟨hd, ho, hs⟩ := branches_perm a (stepTaken bs as) (stepTakenDone a bs as) hm h
  cases c
  · exact ⟨rfl, .refl _, .refl _⟩
  · -- write the permuted step in terms of `stepTaken bs as`, `stepTakenDone a bs as` and the done-ness of the branches `bs`
    simp only [doneStep, opensStep, statesStep, Bool.not_true, Bool.false_eq_true, ↓reduceIte, hc, hsd, ← hd]
    exact ⟨trivial, ho.append_right _, .cons _ (hs.append_right _)⟩
/-- **the else branch runs iff no sibling condition held** -/
theorem else_iff (a : Answered) (someCond someDone : Bool) (tm : List String) (i : String) (ss : List RStep) :
    statesBranch a someCond someDone tm (.mk i .otherwise ss) =
      if someCond then [(i, if someDone then "skipped" else "pending")]
      else (i, if doneSteps a ss then "completed" else "running") :: statesSteps a ss := by
  cases someCond <;> simp [statesBranch]

/-- in particular nothing beneath the else branch ever starts when a sibling condition held -/
theorem else_never_starts (a : Answered) (someDone : Bool) (tm : List String) (i : String) (ss : List RStep) :
    (statesBranch a true someDone tm (.mk i .otherwise ss)).length = 1 := by
  simp [statesBranch]

/-- every branch whose condition holds runs (its steps are started); one whose condition fails is skipped and nothing
beneath it starts -/
theorem cond_branch_runs (a : Answered) (sc sd h : Bool) (tm : List String) (i : String) (ss : List RStep) :
    statesBranch a sc sd tm (.mk i (.cond h) ss) =
      if h then (i, if doneSteps a ss then "completed" else "running") :: statesSteps a ss else [(i, "skipped")] := by
  cases h <;> simp [statesBranch]

/-- **a needs-branch starts after a needed sibling finished**: while none of the siblings it names has ended it is pending and nothing
beneath it has started; once one has, it runs — whatever its own `if` says -/
theorem needs_branch_waits (a : Answered) (sc sd : Bool) (tm : List String) (i : String) (ns : List String) (ss : List RStep) :
    statesBranch a sc sd tm (.mk i (.needs ns) ss) =
      if ns.any (tm.contains ·) then (i, if doneSteps a ss then "completed" else "running") :: statesSteps a ss else [(i, "pending")] := by
  simp [statesBranch]

/-- … so in a step, a `needs` branch that is past `pending` names a sibling condition branch that was skipped or has run to its end -/
theorem needs_started_after_needed (a : Answered) (bs : List RBranch) (i : String) (ns : List String) (ss : List RStep)
    (sc sd : Bool) (h : statesBranch a sc sd (termIds a bs) (.mk i (.needs ns) ss) ≠ [(i, "pending")]) :
    ∃ n ∈ ns, ∃ hc ss', RBranch.mk n (.cond hc) ss' ∈ bs ∧ (hc = false ∨ doneSteps a ss' = true) := by
  rw [needs_branch_waits] at h
  cases hr : ns.any ((termIds a bs).contains ·) with
  | false => rw [hr] at h; simp at h
  | true =>
    obtain ⟨n, hn, hc⟩ := List.any_eq_true.mp hr
    exact ⟨n, hn, (mem_termIds a).1 (by simpa using hc)⟩

/-- the `else` branch never runs beside a `needs` branch (a `needs` branch is never skipped, so the siblings of the `else` branch are
never all skipped) -/
theorem needs_takes_the_step (i : String) (ns : List String) (ss : List RStep) (bs : List RBranch)
    (h : RBranch.mk i (.needs ns) ss ∈ bs) : anyCondHolds bs = true := by
  rw [anyCondHolds_eq]
  exact List.any_eq_true.2 ⟨_, h, rfl⟩

/-- **a step with acts beside its branches**: the first act is a sibling of the branches — when it runs (its `if` holds) it takes the
step and the `else` branch does not run; when it is skipped the branches decide alone -/
theorem mixed_step_else (bs : List RBranch) (x : RAct) (xs : List RAct) :
    stepTaken bs (x :: xs) = (anyCondHolds bs || x.cond) ∧ stepTaken bs [] = anyCondHolds bs := by
  simp [stepTaken, firstActTakes]

/-- **a needs-branch starts after a needed sibling finished, on the engine's stream** (K3, every stream, every instance of the branch —
a step may be entered more than once): in a stream of creations and state writes that the monitor accepts, whenever a task of a branch
with `needs` goes from `pending` to `running`, a task of a branch it names, created beneath the same task of the step, is in a terminal
state at that point of the stream. This is the soundness of the run-time verdict `C04|needs-branch-started-early`. -/
theorem accepted_needs_started_after_needed (needs : List (String × List String)) (pre post : List Acts.Spec.NEv) (tid : Nat)
    (t : Acts.Spec.NTask) (ns : List String)
    (h : Acts.Spec.needsMonitor needs [] 0 (pre ++ .tr tid .pending .running :: post) = none)
    (ht : (Acts.Spec.needsRun needs [] 0 pre).find? (·.tid == tid) = some t) (hn : needs.lookup t.nid = some ns) :
    ∃ s ∈ Acts.Spec.neededSiblings (Acts.Spec.needsRun needs [] 0 pre) t ns, s.state.isCompleted = true := by
  rw [Acts.Spec.needsMonitor_eq] at h
  rw [Acts.Spec.needsRun_eq] at ht ⊢
  exact Acts.Spec.needsStep_pass needs _ _ tid t ns ht hn (Acts.Mon.pass_at h).2

/-- non-vacuity: accepted when the needed sibling has ended first, rejected when it has not — also in a second pass of the step, where the
ended sibling of the first pass does not count -/
example : Acts.Spec.needsMonitor [("bN", ["bA"])] [] 0 [.new ⟨1, "s2", none, .none⟩, .new ⟨2, "bA", some 1, .none⟩, .new ⟨3, "bN", some 1, .none⟩,
    .tr 3 .none .pending, .tr 2 .none .running, .tr 2 .running .completed, .tr 3 .pending .running] = none := by decide
example : Acts.Spec.needsMonitor [("bN", ["bA"])] [] 0 [.new ⟨1, "s2", none, .none⟩, .new ⟨2, "bA", some 1, .none⟩, .new ⟨3, "bN", some 1, .none⟩,
    .tr 2 .none .running, .tr 2 .running .completed, .tr 3 .none .pending, .tr 3 .pending .running,
    .new ⟨4, "s2", none, .none⟩, .new ⟨5, "bA", some 4, .none⟩, .new ⟨6, "bN", some 4, .none⟩, .tr 5 .none .running, .tr 6 .none .pending,
    .tr 6 .pending .running] = some (12, 6) := by decide

/-- **a step starts only after its predecessor is terminal**: while a step of a list is unfinished, nothing of the later
steps has started and only it can be waiting -/
theorem step_order (a : Answered) (s : RStep) (ss : List RStep) (h : doneStep a s = false) :
    statesSteps a (s :: ss) = statesStep a s ∧ opensSteps a (s :: ss) = opensStep a s := by
  simp [statesSteps, opensSteps, h]

/-- and once it is finished the successor is started (a skipped step hands over as well) -/
theorem step_successor (a : Answered) (s : RStep) (ss : List RStep) (h : doneStep a s = true) :
    statesSteps a (s :: ss) = statesStep a s ++ statesSteps a ss := by
  simp [statesSteps, h]

/-- **acts of a step run one after another** -/
theorem acts_sequential (a : Answered) (x : RAct) (xs : List RAct) (h : doneAct a x = false) :
    statesActs a (x :: xs) = statesAct a x ∧ opensActs a (x :: xs) = opensAct a x := by
  simp [statesActs, opensActs, h]

/-- a conditional step or act whose condition fails is skipped, and the flow continues behind it -/
theorem skipped_step_continues (a : Answered) (i : String) (bs : List RBranch) (as : List RAct) (ss : List RStep) :
    statesSteps a (.mk i false bs as :: ss) = (i, "skipped") :: statesSteps a ss := by
  simp [statesSteps, statesStep, doneStep]

theorem skipped_act_continues (a : Answered) (i : String) (xs : List RAct) :
    statesActs a (.irq i false :: xs) = (i, "skipped") :: statesActs a xs := by
  simp [statesActs, statesAct, doneAct]

/-- non-vacuity of the `needs` clauses: `b2` needs `b1`; while `a1` is unanswered `b2` is pending and nothing beneath it has started, the
`else` branch `b3` does not run; once `a1` is answered `b2` runs and waits on `a2` -/
example : statesStep (fun _ => false) (.mk "s1" true [.mk "b1" (.cond true) [.mk "s2" true [] [.irq "a1" true]],
    .mk "b2" (.needs ["b1"]) [.mk "s3" true [] [.irq "a2" true]], .mk "b3" .otherwise []] []) =
    [("s1", "running"), ("b1", "running"), ("s2", "running"), ("a1", "interrupted"), ("b2", "pending"), ("b3", "pending")] := by decide
example : statesStep (fun i => i == "a1") (.mk "s1" true [.mk "b1" (.cond true) [.mk "s2" true [] [.irq "a1" true]],
    .mk "b2" (.needs ["b1"]) [.mk "s3" true [] [.irq "a2" true]], .mk "b3" .otherwise []] []) =
    [("s1", "running"), ("b1", "completed"), ("s2", "completed"), ("a1", "completed"), ("b2", "running"), ("s3", "running"),
     ("a2", "interrupted"), ("b3", "skipped")] := by decide
example : wfStep (.mk "s1" true [.mk "b1" (.cond true) [], .mk "b2" (.needs ["b1"]) []] []) = true ∧
    wfStep (.mk "s1" true [.mk "b1" .otherwise [], .mk "b2" (.needs ["b1"]) []] []) = false := by decide

/-- non-vacuity: permuting the three branches of the example leaves the outcome unchanged -/
example : (statesStep (fun i => i == "a1") (.mk "s1" true [.mk "b3" .otherwise [], .mk "b1" (.cond true) [.mk "s2" true [] [.irq "a1" true]],
    .mk "b2" (.cond false) []] [])).Perm
    (statesStep (fun i => i == "a1") (.mk "s1" true [.mk "b1" (.cond true) [.mk "s2" true [] [.irq "a1" true]], .mk "b2" (.cond false) [],
    .mk "b3" .otherwise []] [])) :=
  (perm_branches _ "s1" true [] ((List.Perm.swap _ _ _).trans (List.Perm.cons _ (List.Perm.swap _ _ _)))).2.2

end Acts.C04
