import ActsModel.Model.Value
import ActsModel.Model.Tmpl

/-!
# C14 — Script boundary keeps values intact; templates substitute every expression
-/
namespace Acts.C14
open Acts Acts.Gen Acts.Value Acts.Tmpl

/-- K1: the conversion widens instead of wrapping, integral doubles up to 2^53 come back as integers,
the template scan is lazy -/
theorem source_constants : intoJsWraps = false ∧ fromJsIntegralBound = some 9007199254740992 ∧
    templateGreedy = false ∧ wholeStringTyped = true := by decide

/-- an integral double within the bound comes back as an integer: `safe` is the test `floatFromJs` makes, with
`fromJsIntegralBound` = `safeBound` -/
theorem floatFromJs_exact (z : Int) (h : safe (.flt (.exact z)) = true) : floatFromJs (.exact z) = .int z :=
  if_pos h

theorem floatFromJs_other (b : Nat) : floatFromJs (.other b) = .flt (.other b) := rfl

theorem int_roundtrip (z : Int) (h : safe (.int z) = true) : fromJs (intToJs z) = .int z := by
  unfold intToJs
  rw [if_neg (by decide)]   -- `intoJsWraps` is off
  split
  · rfl
  · -- too wide for an `i32`: passed as an exact double, which comes back as an integer
    rw [if_pos (by exact h)]   -- `h` is the `if` condition only up to unfolding `safe`
    exact floatFromJs_exact z h

mutual
/-- every safe JSON value comes back from a script with the same value (integers up to 2^53 included) -/
theorem roundtrip_same (v : Json) (h : safe v = true) : sameValue (fromJs (toJs v)) v = true := by
  cases v with
  | int z => simp [toJs, int_roundtrip z h, sameValue]
  | flt f =>
    cases f with
    | exact z => simp [toJs, fromJs, floatFromJs_exact z h, sameValue]
    | other b => simp [toJs, fromJs, floatFromJs_other, sameValue]
  | arr xs => exact roundtrip_sameList xs h
  | obj kvs => exact roundtrip_sameFields kvs h
  | null | bool _ | str _ => simp [toJs, fromJs, sameValue]
theorem roundtrip_sameList (xs : List Json) (h : safeList xs = true) :
    sameList (fromJsList (toJsList xs)) xs = true := by
  cases xs with
  | nil => rfl
  | cons x xs =>
    simp only [safeList, Bool.and_eq_true] at h
    simp [toJsList, fromJsList, sameList, roundtrip_same x h.1, roundtrip_sameList xs h.2]
theorem roundtrip_sameFields (kvs : List (String × Json)) (h : safeFields kvs = true) :
    sameFields (fromJsFields (toJsFields kvs)) kvs = true := by
  cases kvs with
  | nil => rfl
  | cons kv kvs =>
    obtain ⟨k, v⟩ := kv
    simp only [safeFields, Bool.and_eq_true] at h
    simp [toJsFields, fromJsFields, sameFields, roundtrip_same v h.1, roundtrip_sameFields kvs h.2]
end

mutual
/-- and it comes back *identical* when it contains no integral double (2.0 comes back as 2) -/
theorem roundtrip_id (v : Json) (h : safe v = true) (hf : noIntegralFloat v = true) : fromJs (toJs v) = v := by
  cases v with
  | int z => exact int_roundtrip z h
  | flt f =>
    cases f with
    | exact z => cases hf
    | other b => rfl
  | arr xs => exact congrArg Json.arr (roundtrip_idList xs h hf)
  | obj kvs => exact congrArg Json.obj (roundtrip_idFields kvs h hf)
  | null | bool _ | str _ => rfl
theorem roundtrip_idList (xs : List Json) (h : safeList xs = true) (hf : noIntegralFloatList xs = true) :
    fromJsList (toJsList xs) = xs := by
  cases xs with
  | nil => rfl
  | cons x xs =>
    simp only [safeList, noIntegralFloatList, Bool.and_eq_true] at h hf
    simp [toJsList, fromJsList, roundtrip_id x h.1 hf.1, roundtrip_idList xs h.2 hf.2]
theorem roundtrip_idFields (kvs : List (String × Json)) (h : safeFields kvs = true)
    (hf : noIntegralFloatFields kvs = true) : fromJsFields (toJsFields kvs) = kvs := by
  cases kvs with
  | nil => rfl
  | cons kv kvs =>
    obtain ⟨k, v⟩ := kv
    simp only [safeFields, noIntegralFloatFields, Bool.and_eq_true] at h hf
    simp [toJsFields, fromJsFields, roundtrip_id v h.1 hf.1, roundtrip_idFields kvs h.2 hf.2]
end

/-- the witness of the defect the widening repaired: a wrapping cast turns 3000000000 into -1294967296 -/
theorem wrap_3e9 : wrapI32 3000000000 = -1294967296 := by decide

/-- non-vacuity: a nested value with integers at the 2^31, 2^32 and 2^53 boundaries is safe -/
example : safe (.obj [("a", .arr [.int 2147483648, .int (-4294967297), .int 9007199254740992]),
    ("b", .flt (.other 7)), ("c", .str "x")]) = true := by decide

-- ------------------------------------------------------------------ templates

/-- a character that is neither a brace nor a newline -/
def plain (c : Char) : Prop := c ≠ '{' ∧ c ≠ '}' ∧ c ≠ '\n'

inductive Seg where
  | lit (cs : List Char)
  | tpl (e : List Char)

def Seg.render : Seg → List Char
  | .lit cs => cs
  | .tpl e => '{' :: '{' :: e ++ ['}', '}']

def Seg.WF : Seg → Prop
  | .lit cs => ∀ c ∈ cs, plain c
  | .tpl e => ∀ c ∈ e, plain c

def render (segs : List Seg) : List Char := segs.flatMap Seg.render

/-- the spans the templates of a segmented string occupy -/
def spans : Nat → List Seg → List (Nat × Nat)
  | _, [] => []
  | pos, .lit cs :: r => spans (pos + cs.length) r
  | pos, .tpl e :: r => (pos, pos + e.length + 4) :: spans (pos + e.length + 4) r

theorem findClose_plain (e : List Char) (he : ∀ c ∈ e, plain c) (rest : List Char) :
    findClose (e ++ '}' :: '}' :: rest) = some e.length := by
  induction e with
  | nil => simp [findClose]
  | cons c cs ih =>
    obtain ⟨hc, hcs⟩ := List.forall_mem_cons.1 he
    simp [findClose, hc.2.1, hc.2.2, ih hcs]

theorem close_plain (e : List Char) (he : ∀ c ∈ e, plain c) (rest : List Char) :
    close (e ++ '}' :: '}' :: rest) = some e.length := by
  simp [close, templateGreedy, findClose_plain e he rest]

theorem scan_lit (cs : List Char) (hcs : ∀ c ∈ cs, c ≠ '{') (rest : List Char) (pos : Nat) :
    scan pos (cs ++ rest) = scan (pos + cs.length) rest := by
  induction cs generalizing pos with
  | nil => rfl
  | cons c cs ih =>
    obtain ⟨hc, hcs⟩ := List.forall_mem_cons.1 hcs
    rw [List.cons_append, scan_skip _ _ _ hc, ih hcs, List.length_cons]
    congr 1; omega

theorem scan_tpl (e : List Char) (he : ∀ c ∈ e, plain c) (rest : List Char) (pos : Nat) :
    scan pos ('{' :: '{' :: (e ++ '}' :: '}' :: rest)) = (pos, pos + e.length + 4) :: scan (pos + e.length + 4) rest := by
  simp [scan_open pos _ _ (close_plain e he rest)]

theorem render_cons (s : Seg) (segs : List Seg) : render (s :: segs) = s.render ++ render segs := rfl

/-- **each template is found on its own**: for a string made of brace-free literals and brace-free expressions the
scan returns exactly the templates, in order, with their exact extents (any number of them) -/
theorem each_template_found (segs : List Seg) (h : ∀ s ∈ segs, s.WF) :
    ∀ pos, scan pos (render segs) = spans pos segs := by
  induction segs with
  | nil => exact scan_nil
  | cons s segs ih =>
    intro pos
    obtain ⟨hs, hsegs⟩ := List.forall_mem_cons.1 h
    cases s with
    | lit cs => simp [render_cons, Seg.render, spans, scan_lit cs fun c hc => (hs c hc).1, ih hsegs]
    | tpl e => simp [render_cons, Seg.render, spans, scan_tpl e hs, ih hsegs]

/-- no template: nothing is found, the string is passed through verbatim -/
theorem none_verbatim (cs : List Char) (h : ∀ c ∈ cs, plain c) : scan 0 cs = [] := by
  rw [← List.append_nil cs, scan_lit cs fun c hc => (h c hc).1, scan_nil]

/-- exactly one template spanning the string: one span covering all of it (`fill_params` then returns the typed value) -/
theorem single_typed (e : List Char) (h : ∀ c ∈ e, plain c) :
    scan 0 ('{' :: '{' :: e ++ ['}', '}']) = [(0, e.length + 4)] ∧ ('{' :: '{' :: e ++ ['}', '}']).length = e.length + 4 := by
  constructor
  · rw [List.cons_append, List.cons_append, scan_tpl e h [] 0, scan_nil, Nat.zero_add]
  · simp

/-- the defect the lazy scan repaired, on the model: a greedy `.*` joins two templates into one span -/
theorem greedy_joins_two :
    findCloseLast ['a', '}', '}', ' ', '{', '{', 'b', '}', '}'] = some 7 ∧
    findClose ['a', '}', '}', ' ', '{', '{', 'b', '}', '}'] = some 1 := by
  decide

/-- non-vacuity: two templates in one string are found separately -/
example : scan 0 (render [.tpl ['a'], .lit [' ', '&', ' '], .tpl ['b']]) = [(0, 5), (8, 13)] := by
  exact each_template_found [.tpl ['a'], .lit [' ', '&', ' '], .tpl ['b']] (by simp [Seg.WF, plain]) 0

end Acts.C14
