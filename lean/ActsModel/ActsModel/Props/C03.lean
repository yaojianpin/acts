import ActsModel.Spec.Hier
import ActsModel.Spec.Lifecycle
import ActsModel.Lemmas.Ref
import ActsModel.Lemmas.Hier
import ActsModel.Lemmas.Lifecycle

/-!
# C03 — Hierarchical completion and exactly one terminal event per process
-/
namespace Acts.C03
open Acts.Gen Acts.Spec

/-- K1 (`on_proc` read from the source): which client event a process state yields -/
theorem proc_event_table (s : TaskState) :
    (procEventOf s = .start ↔ s = .running ∨ s = .pending) ∧
    (procEventOf s = .error ↔ s = .error) ∧
    (procEventOf s = .complete ↔ (s.isCompleted = true ∧ s ≠ .error)) := by
  cases s <;> decide

/-- K1: the terminal event is `complete` xor `error`, and it is produced exactly for terminal process states -/
theorem terminal_event_xor (s : TaskState) :
    (procEventOf s = .complete ∨ procEventOf s = .error) ↔ stage s = 3 := by
  cases s <;> decide

/-- K1: a process is removed from cache and store on its terminal event exactly when `keep_processes` is off -/
theorem removal_rule (keep : Bool) : removeOnTerminal keep = !keep := rfl

-- ------------------------------------------------------------------ one entry into a terminal state per task (from C02)

/-- number of writes of a trace that take their task from a non-terminal into a terminal state -/
def terminalEntries : List Tr → Nat
  | [] => 0
  | t :: ts => (if stage t.old < 3 ∧ stage t.new = 3 then 1 else 0) + terminalEntries ts

/-- a gap-free trace of one task: each write starts from the state the previous one left -/
def chained : TaskState → List Tr → Prop
  | _, [] => True
  | s, t :: ts => t.old = s ∧ chained t.new ts

/-- **a task that is never revived by a catch enters a terminal state at most once** (so, with the process events
being emitted from the root's terminal write, a process has at most one terminal event): for every legal gap-free trace -/
theorem terminal_entered_once (ts : List Tr) : ∀ s, chained s ts → (∀ t ∈ ts, legal t.old t.new = true) →
    terminalEntries ts ≤ (if stage s = 3 then 0 else 1) := by
  induction ts with
  | nil => intro s _ _; simp [terminalEntries]
  | cons t ts ih =>
    rintro s ⟨rfl, hrest⟩ hl
    have ih' := ih t.new hrest fun u hu => hl u (List.mem_cons_of_mem _ hu)
    -- a terminal state is not left, so the bound for the rest is no worse than the bound here, and better by one after an entry
    have hstay : stage t.old = 3 → stage t.new = 3 := fun h3 => eq_of_legal_of_terminal h3 (hl t List.mem_cons_self) ▸ h3
    have := stage_le t.old
    simp only [terminalEntries]
    split at ih' <;> split <;> split <;> omega

-- ------------------------------------------------------------------ the reference interpretation

open Acts.Ref in
/-- **a step is reported completed only when everything started beneath it is done** (reference interpretation) -/
theorem completed_iff_children_done (a : Answered) (i : String) (bs : List RBranch) (as : List RAct) :
    (statesStep a (.mk i true bs as)).head? = some (i, "completed") ↔
      (doneBranches a (stepTaken bs as) (termIds a bs) bs = true ∧ doneActs a as = true) := by
  simp only [statesStep, Bool.not_true, Bool.false_eq_true, ↓reduceIte, List.head?_cons, Option.some.injEq, Prod.mk.injEq, true_and]
  cases doneBranches a (stepTaken bs as) (termIds a bs) bs <;> cases doneActs a as <;> simp

open Acts.Ref in
/-- **when the process is finished nothing is waiting** (reference interpretation): no interrupt can be answered any more -/
theorem finished_nothing_open (a : Answered) (w : RWorkflow) (h : w.done a = true) : w.opens a = [] :=
  opensSteps_of_done h

-- ------------------------------------------------------------------ the monitor

/-- the monitor never lets a second terminal event or a second start event pass -/
theorem monitor_rejects_second_terminal (st : HState) (i : Nat) (kind : String) (hk : kind ≠ "start") (h : st.terminals ≥ 1) :
    (hierStep st i (.pev kind)).2 = some (i, "second-terminal-event", 0) := by
  simp [hierStep, hk, show 0 < st.terminals from h]

theorem monitor_rejects_second_start (st : HState) (i : Nat) (h : st.starts ≥ 1) :
    (hierStep st i (.pev "start")).2 = some (i, "second-start-event", 0) := by
  simp [hierStep, show 0 < st.starts from h]

/-- **exactly one start event and one terminal event** (K3, every stream): a stream of observations that the monitor accepts contains at
most one start event and at most one terminal event, and the terminal event has the start event before it -/
theorem accepted_stream_events (evs : List HEv) (h : hierMonitor {} 0 evs = none) :
    startCount evs ≤ 1 ∧ terminalCount evs ≤ 1 ∧
    ∀ pre e post, evs = pre ++ e :: post → isTerminalEv e = true → startCount pre = 1 := by
  rw [hierMonitor_eq] at h
  -- `0 +`: the counters of the empty start state, as `Mon.count_le_one` states its bound
  have hs : 0 + startCount evs ≤ 1 :=
    Mon.count_le_one (c := (·.starts)) h (fun st i e _ hp => ⟨(hierStep_counters st i e).1, hierStep_pass_start hp⟩) (Nat.zero_le 1)
  have ht : 0 + terminalCount evs ≤ 1 := Mon.count_le_one (c := (·.terminals)) h
    (fun st i e _ hp => ⟨(hierStep_counters st i e).2.1, fun he => (hierStep_pass_terminal hp he).1⟩) (Nat.zero_le 1)
  refine ⟨by omega, by omega, ?_⟩
  rintro pre e post rfl hte
  -- the terminal event passed on the state after `pre`, whose start counter is the number of start events in `pre`
  have ⟨hpre, hp⟩ := Mon.pass_at h
  have hc := Mon.count_run (c := (·.starts)) hpre fun st i e _ _ => (hierStep_counters st i e).1
  have := (hierStep_pass_terminal hp hte).2
  simp only [startCount, List.filter_append, List.length_append] at hs hc ⊢
  omega

/-- **hierarchical completion** (K3, every stream): at every `completed` write of an accepted stream no task other than a hook act is open
beneath the task that was written — on the monitor's state after exactly that prefix of the stream -/
theorem accepted_completed_nothing_open (pre post : List HEv) (tid : Nat)
    (h : hierMonitor {} 0 (pre ++ .tr tid .completed :: post) = none) :
    openBeneath (hierRun {} 0 (pre ++ [.tr tid .completed])).tasks tid = none := by
  rw [hierMonitor_eq] at h
  rw [hierRun_eq, Mon.run_append]
  exact hierStep_completed_pass _ _ _ (Mon.pass_at h).2

/-- **the process state is the root's state, and nothing is open behind a non-error ending** (K3, every stream): at every quiescent
point of an accepted stream the state the API shows for the process is the state of the root task (a root that has not left `none`
belongs to a running process), and once a `complete` event has been delivered every task but lifecycle-hook acts is terminal -/
theorem accepted_quiescent_point (pre post : List HEv) (ps : TaskState) (r : HTask)
    (h : hierMonitor {} 0 (pre ++ .quiescent ps :: post) = none)
    (hr : (hierRun {} 0 pre).tasks.find? (·.tid == 0) = some r) :
    (r.state = ps ∨ (r.state = .none ∧ ps = .running)) ∧
    (pre.any isCompleteEv = true → ∀ t ∈ (hierRun {} 0 pre).tasks, t.state.isCompleted = true ∨ t.hook = true) := by
  rw [hierMonitor_eq] at h
  rw [hierRun_eq] at hr ⊢
  have ⟨hpre, hp⟩ := Mon.pass_at h
  have ⟨a, b, _⟩ := hierStep_quiescent_pass _ _ ps r hr hp
  refine ⟨a, fun hc => b ?_⟩
  rw [Mon.any_run (c := (·.nonErrorEnd)) hpre fun st i e _ _ => (hierStep_counters st i e).2.2, hc]
  rfl

/-- non-vacuity of the two theorems above: an accepted stream with a start, a completed step over a completed act, and a terminal event -/
example : hierMonitor {} 0 [.new ⟨0, "workflow", 0, none, .none, false⟩, .pev "start", .new ⟨1, "step", 1, some 0, .none, false⟩,
    .new ⟨2, "act", 2, some 1, .none, false⟩, .tr 2 .completed, .tr 1 .completed, .tr 0 .completed, .pev "complete", .quiescent .completed] = none := by
  decide

/-- … and the monitor does reject the same stream when the act is still open at the step's `completed` write -/
example : (hierMonitor {} 0 [.new ⟨0, "workflow", 0, none, .none, false⟩, .pev "start", .new ⟨1, "step", 1, some 0, .none, false⟩,
    .new ⟨2, "act", 2, some 1, .none, false⟩, .tr 1 .completed]).isSome = true := by
  decide

/-- non-vacuity: a legal chained trace of a root task, and the count of its terminal entries -/
example : terminalEntries [⟨"p:$", .none, .ready⟩, ⟨"p:$", .ready, .running⟩, ⟨"p:$", .running, .completed⟩] = 1 := by decide

end Acts.C03
