import ActsModel.Model.Admit
import ActsModel.Lemmas.Basic
import ActsModel.Lemmas.Lifecycle

/-!
# C05 — Client actions: admission rules and at-most-once effect
-/
namespace Acts.C05
open Acts.Gen Acts.Admit Acts.Spec

/-- the admission predicate of the property text -/
def Admissible (a : EventAction) (t : Target) : Prop :=
  t.procLive = true ∧ t.taskExists = true ∧ t.kind = (if a = .push then .step else .act) ∧
  t.outputsSatisfied = true ∧ (a ∈ [.next, .submit, .skip, .remove, .abort, .error, .back] → stage t.state ≠ 3)

/-- what `admission` has checked when it hands the action to its arm -/
theorem admission_none_iff (a : EventAction) (t : Target) : admission a t = none ↔
    t.procLive = true ∧ t.taskExists = true ∧ t.kind = requiredKind a ∧ t.outputsSatisfied = true ∧
      (guardedArm a = true → t.state.isCompleted = false) := by
  simp [admission, ite_some_eq_none, ite_else_some_eq_none]

/-- K1: the admission checks precede the call of `update`, and every guarded arm returns before its first write
(`guardedArm` is computed as "the early return precedes the first mutating call of the arm") -/
theorem checks_precede_writes : admissionOrder = ["task", "kind", "outputs"] ∧
    ∀ a ∈ [EventAction.next, .submit, .skip, .remove, .abort, .error, .back], guardedArm a = true := by decide

/-- K1 (kind rule and guard table from the source): an action is handed to its arm only if it is admissible -/
theorem admission_sound (a : EventAction) (t : Target) (h : admission a t = none) : Admissible a t := by
  obtain ⟨h1, h2, h3, h4, h5⟩ := (admission_none_iff a t).mp h
  -- `h3` names `requiredKind a`; the kind clause of `Admissible` is the generated definition of it, unfolded
  refine ⟨h1, h2, h3, h4, fun ha hs => ?_⟩
  rw [← isCompleted_iff_stage, h5 (checks_precede_writes.2 a ha)] at hs
  cases hs

/-- K1: and every admissible terminal action is handed to its arm (nothing else is checked before the arm) -/
theorem admission_complete (a : EventAction) (t : Target) (h : Admissible a t)
    (hterm : a ∈ [.next, .submit, .skip, .remove, .abort, .error, .back]) : admission a t = none := by
  obtain ⟨h1, h2, h3, h4, h5⟩ := h
  refine (admission_none_iff a t).mpr ⟨h1, h2, h3, h4, fun _ => ?_⟩
  simpa [← isCompleted_iff_stage] using h5 hterm

/-- K1: **once an act is terminal every one of the seven actions on it is rejected** -/
theorem terminal_rejects (a : EventAction) (ha : a ∈ [.next, .submit, .skip, .remove, .abort, .error, .back])
    (t : Target) (hl : t.procLive = true) (he : t.taskExists = true) (hk : t.kind = .act) (ho : t.outputsSatisfied = true)
    (hs : stage t.state = 3) : admission a t = some .alreadyCompleted := by
  have hk' : t.kind = requiredKind a := by
    rw [hk, requiredKind, if_neg]; rintro rfl; simp at ha
  simp [admission, hl, he, hk', ho, checks_precede_writes.2 a ha, (isCompleted_iff_stage _).mpr hs]

/-- the rejection reasons are reported in the order lookup, kind, outputs, state -/
theorem reject_order (a : EventAction) (t : Target) :
    (t.procLive = false → admission a t = some .noProcess) ∧
    (t.procLive = true → t.taskExists = false → admission a t = some .noTask) ∧
    (t.procLive = true → t.taskExists = true → t.kind ≠ requiredKind a → admission a t = some .wrongKind) := by
  unfold admission
  refine ⟨fun h => by simp [h], fun h1 h2 => by simp [h1, h2], fun h1 h2 h3 => ?_⟩
  simp [h1, h2, h3]

-- ------------------------------------------------------------------ at-most-once

theorem raceRun_serial_cons (w : TaskState) (r : Race) (c : Nat) (cs : List Nat) :
    raceRun w r (serial (c :: cs)) = raceRun w (raceStep w (raceStep w r (.guard c)) (.effect c)) (serial cs) := by
  simp only [raceRun, serial, List.flatMap_cons, List.cons_append, List.nil_append, List.foldl_cons]

/-- one serial client, nobody else between guard and effect: it is accepted iff the act is still open -/
theorem serial_client (w : TaskState) (r : Race) (hp : r.passed = []) (c : Nat) :
    raceStep w (raceStep w r (.guard c)) (.effect c) =
      if r.state.isCompleted then r else ⟨w, [], c :: r.accepted⟩ := by
  cases h : r.state.isCompleted <;> simp [raceStep, h, hp]

/-- serial clients leave a closed act as it is -/
theorem serial_closed (w : TaskState) (r : Race) (hr : r.state.isCompleted = true) (hp : r.passed = []) (cs : List Nat) :
    raceRun w r (serial cs) = r := by
  induction cs with
  | nil => rfl
  | cons c cs ih => rw [raceRun_serial_cons, serial_client w r hp, if_pos hr, ih]

/-- **serial clients (guard and effect not interleaved): exactly one of n identical terminal actions on an open act is
accepted — the first — whatever the number of clients** (`w` is the terminal state the arm writes) -/
theorem serial_exactly_one (w : TaskState) (hw : w.isCompleted = true) (s0 : TaskState) (h0 : s0.isCompleted = false)
    (c : Nat) (cs : List Nat) :
    (raceRun w ⟨s0, [], []⟩ (serial (c :: cs))).accepted = [c] := by
  rw [raceRun_serial_cons, serial_client w _ rfl, h0, if_neg Bool.false_ne_true, serial_closed w _ hw rfl]

/-- K1 (`Process::do_action` read from the source on this run): the guard and the effect of one client action are one critical section
of the process — the lock is taken unconditionally, bound to a name, before the task is looked up, for every action kind. This is the
hypothesis "serial" of `serial_exactly_one`; without it `interleaved_two_succeed` applies. -/
theorem actions_serialised : actionSerialised = true := by decide

/-- W: the model-level reason the clause needs the lock (the defect repaired by `089e2ab`) — without it the interleaving
guard₁ guard₂ effect₁ effect₂ accepts both clients -/
theorem interleaved_two_succeed :
    (raceRun .completed ⟨.interrupt, [], []⟩ [.guard 1, .guard 2, .effect 1, .effect 2]).accepted = [2, 1] := by decide

end Acts.C05
