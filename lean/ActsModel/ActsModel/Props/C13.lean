import ActsModel.Model.Iso
import ActsModel.Gen.Reload

/-!
# C13 — Processes are isolated; the outcome does not depend on load, cache capacity or threads
-/
namespace Acts.C13
open Acts.Iso

variable {S Op Out : Type}

@[simp] theorem upd_same {α : Type} (w : String → α) (p : String) (s : α) : upd w p s p = s := by simp [upd]
@[simp] theorem upd_other {α : Type} (w : String → α) (p q : String) (s : α) (h : q ≠ p) : upd w p s q = w q := by simp [upd, h]

theorem proj_cons {α : Type} (p : String) (e : String × α) (es : List (String × α)) :
    proj p (e :: es) = if e.1 = p then e.2 :: proj p es else proj p es := by
  simp only [proj, List.filter_cons, beq_iff_eq]; split <;> rfl

/-- **Isolation.**  However the events of many processes are interleaved, the final state of a process and the outputs it
produced are those of running its own events alone (K3: every step function, every world, every interleaving, every pid). -/
theorem projection (step : S → Op → S × Out) (w : String → S) (es : List (String × Op)) (p : String) :
    (runW step w es).1 p = (run step (w p) (proj p es)).1 ∧
    proj p (runW step w es).2 = (run step (w p) (proj p es)).2 := by
  induction es generalizing w with
  | nil => exact ⟨rfl, rfl⟩
  | cons e es ih =>
    have ih := ih (upd w e.1 (step (w e.1) e.2).1)
    simp only [runW, proj_cons]
    split
    · next h => subst h; simpa only [upd_same, run, List.cons.injEq, true_and] using ih
    · next h => rwa [upd_other _ _ _ _ (Ne.symm h)] at ih

/-- two interleavings with the same per-process event sequences give every process the same outcome -/
theorem schedule_independent (step : S → Op → S × Out) (w : String → S) (es es' : List (String × Op))
    (h : ∀ p, proj p es = proj p es') (p : String) :
    (runW step w es).1 p = (runW step w es').1 p ∧ proj p (runW step w es).2 = proj p (runW step w es').2 := by
  simp only [projection, h p, and_self]

/-- nothing leaks: a process that receives no event keeps its state and produces nothing -/
theorem untouched (step : S → Op → S × Out) (w : String → S) (es : List (String × Op)) (p : String)
    (h : ∀ e ∈ es, e.1 ≠ p) : (runW step w es).1 p = w p ∧ proj p (runW step w es).2 = [] := by
  have hp : proj p es = [] := by
    simp only [proj, List.map_eq_nil_iff, List.filter_eq_nil_iff, beq_iff_eq]; exact h
  have := projection step w es p
  rwa [hp] at this

-- ------------------------------------------------------------------ cache capacity and eviction

theorem coherent_step (step : S → Op → S × Out) (c : CS S) (e : CEv Op) (h : Coherent c) : Coherent (cstep step c e).1 := by
  intro p s
  cases e with
  | access q o | evict q =>
    -- at `q` the new entries agree (or the copy is gone); elsewhere nothing has changed
    simp only [cstep, upd]
    split
    · simp
    · exact h p s

theorem get_eq_store (c : CS S) (h : Coherent c) (p : String) : c.get p = c.store p := by
  cases hc : c.cache p with
  | none => simp [CS.get, hc]
  | some s => simp [CS.get, hc, h p s hc]

/-- **Capacity independence.**  With write-through, a run with arbitrary evictions (any capacity, any policy, any moment
between steps) leaves the same store and produces the same outputs as the world without any cache. -/
theorem cache_transparent (step : S → Op → S × Out) (c : CS S) (es : List (CEv Op)) (h : Coherent c) :
    (crun step c es).1.store = (runW step c.store (accesses es)).1 ∧
    (crun step c es).2 = (runW step c.store (accesses es)).2 ∧ Coherent (crun step c es).1 := by
  induction es generalizing c with
  | nil => exact ⟨rfl, rfl, h⟩
  | cons e es ih =>
    have ih := ih _ (coherent_step step c e h)
    -- an access reads what the store holds (`get_eq_store`), so it is the world's step; an eviction shows in neither store nor outputs
    cases e with
    | access p o => simpa only [crun, accesses, runW, cstep, get_eq_store c h p, List.cons.injEq, true_and] using ih
    | evict p => exact ih

/-- so two runs that differ only in their evictions agree -/
theorem eviction_independent (step : S → Op → S × Out) (c : CS S) (es es' : List (CEv Op)) (h : Coherent c)
    (hacc : accesses es = accesses es') :
    (crun step c es).1.store = (crun step c es').1.store ∧ (crun step c es).2 = (crun step c es').2 := by
  simp only [cache_transparent step c _ h, hacc, and_self]

/-- the write-through hypothesis is needed: a cache that only updates its copy loses the step on eviction
(the shape of the persistence defects repaired under C11) -/
theorem lazy_cache_loses_updates :
    let step : Nat → Unit → Nat × Nat := fun s _ => (s + 1, s)
    let c : CS Nat := { store := fun _ => 0, cache := fun _ => none }
    let c1 := (cstepLazy step c (.access "p" ())).1
    let c2 := (cstepLazy step c1 (.evict "p")).1
    (cstepLazy step c2 (.access "p" ())).2 = some ("p", 0) ∧ (cstep step (cstep step (cstep step c (.access "p" ())).1 (.evict "p")).1 (.access "p" ())).2 = some ("p", 1) := by
  decide

/-- **the open finding, as a witness on the model** (`C13|two-live-copies-of-a-process`): `cache_transparent` holds for a cache in
which the cached copy is the only live one. In the engine a scheduler thread can keep working on a copy that has left the cache; with
such a step in the history the outcome is no longer that of the process alone: a counter that answers 0, 1, 2 alone answers 0, 1, 1,
and the store ends at 2 instead of 3. (On the engine the check recognises this history by two overlapping copy serials in the trace.) -/
theorem two_live_copies_diverge :
    let step : Nat → Unit → Nat × Nat := fun s _ => (s + 1, s)
    let c : CS2 Nat := { store := fun _ => 0, cache := fun _ => none, held := fun _ => none }
    let r := crun2 step c [.access "p" (), .evict "p", .access "p" (), .heldStep "p" ()]
    r.2 = [("p", 0), ("p", 1), ("p", 1)] ∧ r.1.store "p" = 2 ∧
    (run step 0 [(), (), ()]).2 = [0, 1, 2] ∧ (run step 0 [(), (), ()]).1 = 3 := by
  decide

/-- without steps on held copies the cache of the finding's model is the transparent one: same store, same cache, same outputs -/
theorem cache_transparent_partial (step : S → Op → S × Out) (es : List (CEv Op)) : ∀ (c : CS2 S),
    let lift : CEv Op → CEv2 Op := fun e => match e with | .access p o => .access p o | .evict p => .evict p
    let r2 := crun2 step c (es.map lift)
    let r1 := crun step { store := c.store, cache := c.cache } es
    r2.1.store = r1.1.store ∧ r2.1.cache = r1.1.cache ∧ r2.2 = r1.2 := by
  induction es with
  | nil => exact fun c => ⟨rfl, rfl, rfl⟩
  | cons e es ih =>
    -- unfolding one step of each: on `access` and `evict`, `cstep2` reads and writes `store` and `cache` as `cstep` does
    intro c
    cases e with
    | access p o =>
      simpa only [List.map_cons, crun2, crun, cstep2, cstep, CS.get, List.cons.injEq, true_and]
        using ih (cstep2 step c (.access p o)).1
    | evict p => simpa only [List.map_cons, crun2, crun, cstep2, cstep] using ih (cstep2 step c (.evict p)).1

-- ------------------------------------------------------------------ start

/-- a second start with a present id is refused and changes nothing -/
theorem second_start_refused (present : String → Bool) (p : String) :
    let r1 := start present p
    (start r1.2 p).1 = false ∧ (start r1.2 p).2 = r1.2 := by
  unfold start
  by_cases h : present p = true <;> simp [h]

/-- a start never makes another id present or absent -/
theorem start_frame (present : String → Bool) (p q : String) (h : q ≠ p) : (start present p).2 q = present q := by
  unfold start
  by_cases hp : present p = true <;> simp [hp, h]

/-- K1: the translated `Runtime::start` checks the id through the cache (which falls back to the store) before it creates the process -/
theorem start_checks_first : Acts.Gen.startChecksPid = true := by decide

/-- non-vacuity: two processes, interleaved -/
example : (runW (fun (s : Nat) (o : Nat) => (s + o, s)) (fun _ => 0) [("a", 1), ("b", 5), ("a", 2)]).1 "a" = 3 := by
  decide

end Acts.C13
