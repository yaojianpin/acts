import ActsModel.Lemmas.Basic
import ActsModel.Lemmas.Lifecycle

/-!
# C02 — Task lifecycle: only legal transitions, terminal states are final

`Statement` (full strength) quantifies over all traces the engine can produce; it is decided by
the K1 theorems below (over the translator's tables) and by `Spec.legalTrace` evaluated on
the engine's own transition trace.
-/
namespace Acts.C02
open Acts.Gen Acts.Spec

/-- the property as a predicate on a whole transition trace -/
def Statement (trace : List Tr) : Prop := legalTrace trace = true

/-- K1: the generated `is_completed` class is exactly stage 3 of the property text. -/
theorem completed_iff_stage3 (s : TaskState) : s.isCompleted = true ↔ stage s = 3 :=
  isCompleted_iff_stage s

/-- K1: the generated `is_created` class is exactly stage 1. -/
theorem created_iff_stage1 (s : TaskState) : s.isCreated = true ↔ stage s = 1 := by
  cases s <;> decide

theorem running_iff_stage2 (s : TaskState) : s.isRunning = true ↔ stage s = 2 := by
  cases s <;> decide

theorem none_iff_stage0 (s : TaskState) : s.isNone = true ↔ stage s = 0 := by
  cases s <;> decide

/-- K1: kind-`next` only runs for skipped / running / removed / completed tasks. -/
theorem isNext_class (s : TaskState) :
    s.isNext = true ↔ s = .skipped ∨ s = .running ∨ s = .removed ∨ s = .completed := by
  cases s <;> decide

/-- K1: the singleton predicates name the state they say. -/
theorem singleton_predicates (s : TaskState) :
    (s.isError = true ↔ s = .error) ∧ (s.isAbort = true ↔ s = .aborted) ∧ (s.isSkip = true ↔ s = .skipped) ∧
    (s.isSuccess = true ↔ s = .completed) ∧ (s.isPending = true ↔ s = .pending) ∧
    (s.isReady = true ↔ s = .ready) ∧ (s.isRemoved = true ↔ s = .removed) ∧
    (s.isInterrupted = true ↔ s = .interrupt) := by
  cases s <;> decide

/-- K1: the persisted spelling of a state reads back as the same state (store round trip of `state`). -/
theorem ofStr_toStr (s : TaskState) : TaskState.ofStr (TaskState.toStr s) = s := by
  cases s <;> simp [TaskState.toStr, TaskState.ofStr]

/-- K1: a message reports a terminal state exactly for terminal tasks … -/
theorem msgState_completed_iff (s : TaskState) :
    (msgStateOf s).isCompleted = true ↔ s.isCompleted = true := by
  cases s <;> decide

/-- K1: … and never renames one … -/
theorem msgState_toStr (s : TaskState) (h : s.isCompleted = true) : (msgStateOf s).toStr = s.toStr := by
  cases s <;> first | rfl | cases h

/-- … so the message state tells terminal states apart: its spelling reads back as the task state (`ofStr_toStr`). -/
theorem msgState_injective_on_terminal (a b : TaskState) (ha : a.isCompleted = true) (hb : b.isCompleted = true)
    (h : msgStateOf a = msgStateOf b) : a = b := by
  rw [← ofStr_toStr a, ← ofStr_toStr b, ← msgState_toStr a ha, ← msgState_toStr b hb, h]

/-- nothing leaves stage 3: a legal write out of a terminal state keeps the state. -/
theorem terminal_is_final (o n : TaskState) (ho : stage o = 3) (h : legal o n = true) : n = o :=
  eq_of_legal_of_terminal ho h

/-- legality is monotone in the stage. -/
theorem legal_stage_mono (o n : TaskState) (h : legal o n = true) : stage o ≤ stage n :=
  stage_le_of_legal h

/-- every arm that writes a state on the acting task writes a terminal one, so an accepted action closes the act -/
theorem arm_writes_terminal (a : EventAction) (w : TaskState) (h : armWrites a = some w) : stage w = 3 := by
  cases a <;> cases h <;> rfl

/-- K1 (guard table of `Task::update`): an arm that starts with the `is_completed()` early return
only ever writes a legal transition on the acting task. -/
theorem guarded_arms_legal (a : EventAction) (hg : guardedArm a = true) (old w : TaskState)
    (hold : old.isCompleted = false) (hw : armWrites a = some w) : legal old w = true := by
  have _ := hg  -- not used: whatever the arm, the state it writes is terminal
  exact legal_of_stage_lt (arm_writes_terminal a w hw ▸ stage_lt_of_not_completed hold)

/-- the seven terminal client actions of the property text -/
def terminalActions : List EventAction := [.next, .submit, .remove, .skip, .abort, .error, .back]

/-- K1: every one of the seven arms is guarded, i.e. a terminal act absorbs the action
(`Task::update` returns `Err` before any write). -/
theorem terminal_absorbs_actions : ∀ a ∈ terminalActions, guardedArm a = true := by
  decide

/-- the monitor accepts exactly the traces without an illegal write (soundness of `firstIllegal`):
if it answers `none`, every write is legal or is a first revive of its task. -/
theorem firstIllegal_none_sound (ts : List Tr) :
    ∀ (rev : List String) (i : Nat), firstIllegal rev i ts = none →
      ∀ t ∈ ts, legal t.old t.new = true ∨ isRevive t = true := by
  induction ts with
  | nil => intro _ _ _ t ht; cases ht
  | cons t ts ih =>
    intro rev i h
    rw [firstIllegal] at h
    rw [List.forall_mem_cons]
    by_cases hl : legal t.old t.new = true
    · rw [if_pos hl] at h; exact ⟨.inl hl, ih _ _ h⟩
    · rw [if_neg hl, ite_else_some_eq_none, Bool.and_eq_true] at h
      exact ⟨.inr h.1.1, ih _ _ h.2⟩

/-- a task is revived at most once in an accepted trace: after its revive the key is remembered and a second
`error → running` of the same key is rejected. -/
theorem second_revive_rejected (t : Tr) (h : isRevive t = true) (rev : List String) (hk : rev.contains t.key = true)
    (i : Nat) (ts : List Tr) : firstIllegal rev i (t :: ts) = some i := by
  have hl : legal t.old t.new = false := by
    have ⟨h1, h2⟩ : t.old = .error ∧ t.new = .running := by simpa only [isRevive, Bool.and_eq_true, beq_iff_eq] using h
    rw [h1, h2]; decide
  rw [firstIllegal, hl, h, hk]; rfl

/-- non-vacuity: a legal non-trivial trace (with one catch revive) and an illegal one -/
example : legalTrace [⟨"p:1", .none, .ready⟩, ⟨"p:1", .ready, .interrupt⟩, ⟨"p:1", .interrupt, .error⟩,
    ⟨"p:1", .error, .running⟩, ⟨"p:1", .running, .completed⟩] = true := by decide
example : legalTrace [⟨"p:1", .completed, .submitted⟩] = false := by decide
example : legalTrace [⟨"p:1", .error, .running⟩, ⟨"p:1", .running, .error⟩, ⟨"p:1", .error, .running⟩] = false := by decide

end Acts.C02
