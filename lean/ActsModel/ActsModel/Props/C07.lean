import ActsModel.Model.Scope
import ActsModel.Lemmas.Vars

/-!
# C07 — Data flow: inputs, act outputs and workflow outputs follow the scoping rules
Theorems about `Model/Scope.lean` for every chain, key and value; the operational model uses the same
rules (`Op.updateData`, `Op.findVar`) and is compared with the engine on task data, message inputs/outputs
and terminal-event outputs.
-/
namespace Acts.C07
open Acts Acts.Gen Acts.Scope

/-- K1: the private-key regex is `^(data|__).*`: exactly the keys starting with `data` or `__` -/
theorem private_prefixes : Consts.priKeyPrefixes = ["data", "__"] ∧ Consts.privatePrefix = "__" ∧ Consts.ACT_DATA = "data" := by decide

/-- **read-your-writes**: the writer itself reads the value it wrote, whatever the chain looks like -/
theorem writer_reads_own_write (c : Chain) (k : String) (v : Json) (h : c ≠ []) : find (update c k v) k = some v := by
  cases c with
  | nil => exact absurd rfl h
  | cons self anc => simp [update, find, Vars.get_set_same]

/-- a write to the ancestors changes at most one of them: one that holds the key, which receives the value -/
theorem updateOutermost_eq_set (anc : List Vars) (k : String) (v : Json) :
    updateOutermost anc k v = anc ∨
    ∃ i, ∃ h : i < anc.length, anc[i].has k = true ∧ updateOutermost anc k v = anc.set i (Vars.set anc[i] k v) := by
  induction anc with
  | nil => exact .inl rfl
  | cons a rest ih =>
    unfold updateOutermost
    split
    · rcases ih with he | ⟨i, hi, hh, he⟩
      · exact .inl (by rw [he])
      · exact .inr ⟨i + 1, by simpa using hi, by simpa using hh, by simp [he]⟩
    · split
      · exact .inr ⟨0, by simp, by simpa, rfl⟩
      · exact .inl rfl

/-- a write never changes the number of scopes -/
theorem updateOutermost_length (anc : List Vars) (k : String) (v : Json) : (updateOutermost anc k v).length = anc.length := by
  rcases updateOutermost_eq_set anc k v with he | ⟨i, _, _, he⟩ <;> simp [he]

/-- **only the holder changes**: every ancestor that does not hold the key is left exactly as it was -/
theorem updateOutermost_frame (anc : List Vars) (k : String) (v : Json) :
    ∀ i (h : i < anc.length), (anc[i]).has k = false →
      (updateOutermost anc k v)[i]'(by rw [updateOutermost_length]; exact h) = anc[i] := by
  intro i h hk
  rcases updateOutermost_eq_set anc k v with he | ⟨j, hj, hh, he⟩
  · simp only [he]
  · simp only [he, List.getElem_set]
    split
    · subst j; rw [hk] at hh; cases hh
    · rfl

/-- other keys of every scope are untouched by a write of `k` -/
theorem updateOutermost_other_keys (anc : List Vars) (k k' : String) (v : Json) (hne : k' ≠ k) :
    (updateOutermost anc k v).map (·.get k') = anc.map (·.get k') := by
  rcases updateOutermost_eq_set anc k v with he | ⟨i, hi, _, he⟩
  · rw [he]
  · rw [he, List.map_set, Vars.get_set_other _ _ _ _ hne,
      ← List.getElem_map (fun x : Vars => x.get k') (l := anc) (h := by simpa using hi), List.set_getElem_self]

/-- **the holder receives the value**: if some ancestor holds the key, the outermost such ancestor holds the new value afterwards
and every other scope is unchanged -/
theorem updateOutermost_holder (pre : List Vars) {h : Vars} {post : List Vars} (k : String) (v : Json)
    (hh : h.has k = true) (hpost : ∀ x ∈ post, x.has k = false) :
    updateOutermost (pre ++ h :: post) k v = pre ++ Vars.set h k v :: post := by
  induction pre with
  | nil =>
    have : post.any (·.has k) = false := by simpa using hpost
    simp [updateOutermost, this, hh]
  | cons p pre ih => simp [updateOutermost, ih, hh]

/-- with **at most one holder** (each name declared in at most one enclosing scope) that holder is the one updated -/
theorem update_unique_holder (self : Vars) (pre : List Vars) (h : Vars) (post : List Vars) (k : String) (v : Json)
    (hpriv : isPrivate k = false) (hh : h.has k = true) (hpre : ∀ x ∈ pre, x.has k = false) (hpost : ∀ x ∈ post, x.has k = false) :
    update (self :: (pre ++ h :: post)) k v = Vars.set self k v :: (pre ++ Vars.set h k v :: post) := by
  simp [update, hpriv, updateOutermost_holder pre k v hh hpost]

/-- **later readers see the value**: any task whose ancestry reaches the holder without passing another holder of the name
reads the written value (`pre'` = the reader's own scopes below the holder) -/
theorem reader_sees_write (pre' : List Vars) (h : Vars) (post : List Vars) (k : String) (v : Json)
    (hpre : ∀ x ∈ pre', x.get k = none) : find (pre' ++ Vars.set h k v :: post) k = some v := by
  simp [find, List.findSome?_append, List.findSome?_eq_none_iff.mpr hpre, Vars.get_set_same]

/-- **keys beginning with `__` (and the `data` key) never leave their task** -/
theorem private_stays_local (self : Vars) (anc : List Vars) (k : String) (v : Json) (h : isPrivate k = true) :
    update (self :: anc) k v = Vars.set self k v :: anc := by
  simp [update, h]

theorem dunder_is_private (k : String) (h : k.startsWith "__" = true) : isPrivate k = true := by
  simp [isPrivate, Consts.priKeyPrefixes, h]

/-- **no scope outside the writer's ancestry is reached**: `update` returns the writer's chain and nothing else, of the same
length; tasks that are not on the chain are not arguments of the function at all -/
theorem update_length (c : Chain) (k : String) (v : Json) : (update c k v).length = c.length := by
  cases c with
  | nil => rfl
  | cons self anc => simp only [update]; split <;> simp [updateOutermost_length]

/-- W: without the at-most-one-holder hypothesis the *outermost* holder is updated and a nearer holder keeps its stale value,
which a reader beneath the nearer holder then sees -/
theorem farthest_wins (near far : Vars) (k : String) (v : Json) (hn : near.has k = true) (hf : far.has k = true)
    (hpriv : isPrivate k = false) :
    update ([] :: [near, far]) k v = [Vars.set [] k v, near, Vars.set far k v] ∧
    find [near, Vars.set far k v] k = near.get k := by
  constructor
  · simp [update, hpriv, updateOutermost, hf]
  · obtain ⟨x, hx⟩ := Option.isSome_iff_exists.mp ((Vars.has_iff near k).mp hn)
    simp [find, hx]

/-- non-vacuity: a chain of depth 3 with the holder in the middle satisfies the hypotheses of `update_unique_holder` -/
example : Vars.has [("k", Json.null)] "k" = true ∧ (∀ x ∈ ([[("y", Json.int 1)]] : List Vars), Vars.has x "k" = false) ∧
    (∀ x ∈ ([[("z", Json.int 3)]] : List Vars), Vars.has x "k" = false) ∧ isPrivate "k" = false := by
  refine ⟨by decide, ?_, ?_, by decide⟩ <;> (intro x hx; simp at hx; subst hx; decide)

end Acts.C07
