import ActsModel.Lemmas.Tree
import ActsModel.Model.Deploy
import ActsModel.Lemmas.Basic

/-!
# C20 — Models survive serialisation; deployment and tree building are faithful
The tree theorems quantify over every workflow (any nesting of steps, branches, acts, catches and
timeouts), by mutual structural induction over the AST.
-/
namespace Acts.C20
open Acts Acts.Tree

/-- every id the builder is going to register, in visiting order: the `on` events, the workflow, then the steps -/
def declaredIds (w : Workflow) : List String := w.on.map (·.id) ++ w.id :: idsSteps w.steps

theorem buildEvents_spec (evs : List Act) (hne : ∀ a ∈ evs, a.id.isEmpty = false) (built : Built) :
    Spec (evs.map (·.id)) built (buildEvents built evs) := by
  induction evs generalizing built with
  | nil => exact .pure rfl
  | cons a rest ih =>
    rw [List.forall_mem_cons] at hne
    simp only [buildEvents, hne.1, Bool.false_eq_true, if_false, List.map_cons]
    exact .register <| .map (ih hne.2 _) fun rn hr => by rw [List.map_cons, hr]

/-- the whole build fails or succeeds as the id check of the declared ids does, and on success the nodes carry them -/
theorem build_spec (w : Workflow) (hne : ∀ a ∈ w.on, a.id.isEmpty = false) :
    match build w with
    | .ok nodes => nodes.map (·.id) = declaredIds w ∧ ∃ b, checkIds [] (declaredIds w) = .ok b
    | .error e => checkIds [] (declaredIds w) = .error e := by
  unfold build declaredIds
  rw [checkIds_append]
  obtain ⟨e, hr, hc⟩ | ⟨en, built0, hr, hen, hc⟩ := (buildEvents_spec w.on hne []).elim
  · simp only [hr, hc]
  · simp only [hr, hc, checkIds]
    by_cases hd : built0.contains w.id = true
    · simp only [if_pos hd]
    · simp only [if_neg hd]
      obtain ⟨e, hr, hc⟩ | ⟨sn, b, hr, hsn, hc⟩ := (buildSteps_spec w.id 1 true none (built0 ++ [w.id]) w.steps).elim
      · simp only [hr, hc]
      · simp only [hr, hc]; exact ⟨by simp [hen, hsn], _, rfl⟩

/-- **every declared step, branch and act exactly once, in declaration order**: a successful build returns one node per
declared element, with the ids in the order of declaration (pre-order) -/
theorem nodes_exactly_once (w : Workflow) (hne : ∀ a ∈ w.on, a.id.isEmpty = false) (nodes : List Node)
    (h : build w = .ok nodes) : nodes.map (·.id) = declaredIds w := by
  have := build_spec w hne
  rw [h] at this
  exact this.1

/-- on the bookkeeping side the whole build is the id check of the declared ids -/
theorem build_isOk_iff_check (w : Workflow) (hne : ∀ a ∈ w.on, a.id.isEmpty = false) :
    (∃ nodes, build w = .ok nodes) ↔ (∃ b, checkIds [] (declaredIds w) = .ok b) := by
  have := build_spec w hne
  split at this
  · next nodes h => simp [h, this.2]
  · next e h => simp [h, this]

/-- **duplicate ids are rejected, and nothing else is**: the build succeeds exactly when no declared id repeats -/
theorem build_ok_iff_nodup (w : Workflow) (hne : ∀ a ∈ w.on, a.id.isEmpty = false) :
    (∃ nodes, build w = .ok nodes) ↔ (declaredIds w).Nodup := by
  simp [build_isOk_iff_check w hne, checkIds_eq_ok_iff]

/-- so the nodes of a built tree have pairwise distinct ids -/
theorem built_ids_nodup (w : Workflow) (hne : ∀ a ∈ w.on, a.id.isEmpty = false) (nodes : List Node)
    (h : build w = .ok nodes) : (nodes.map (·.id)).Nodup := by
  rw [nodes_exactly_once w hne nodes h]
  exact (build_ok_iff_nodup w hne).mp ⟨nodes, h⟩

/-- an `on` event without id is rejected -/
theorem empty_event_id_rejected (w : Workflow) (a : Act) (rest : List Act) (h : w.on = a :: rest) (ha : a.id.isEmpty = true) :
    build w = .error .eventIdEmpty := by
  simp [build, h, buildEvents, ha]

/-- the children of a step node are, in this order: its branches, its first act, the first step of each catch and of each
timeout rule — each list under its own key (the shared-cursor defect chained later lists behind the first) -/
theorem step_children_declared (s : Step) (h : s.next = none) :
    stepChildren s = s.branches.map (fun b => (OutKind.normal, none, b.id)) ++ firstActEntry s.acts ++
      (s.catches.flatMap (fun c => firstStepEntry .catch c.on c.steps) ++
       s.timeouts.flatMap (fun t => firstStepEntry .timeout (some t.on) t.steps)) := by
  simp [stepChildren, h, hookEntries]

theorem mem_firstStepEntry (typ : OutKind) (on : Option String) {steps rest : List Step} {s : Step} (h : steps = s :: rest) :
    (typ, on, s.id) ∈ firstStepEntry typ on steps := by
  subst h; exact List.mem_singleton_self _

/-- each catch that has steps is reachable under its own error code: `children_in(Catch, on)` of the owner starts with the
first step of that catch -/
theorem catch_first_step_registered (catches : List Catch) (timeouts : List Timeout) (c : Catch) (hc : c ∈ catches)
    (s : Step) (rest : List Step) (hs : c.steps = s :: rest) :
    (OutKind.catch, c.on, s.id) ∈ hookEntries catches timeouts :=
  List.mem_append_left _ (List.mem_flatMap.mpr ⟨c, hc, mem_firstStepEntry _ _ hs⟩)

theorem timeout_first_step_registered (catches : List Catch) (timeouts : List Timeout) (t : Timeout) (ht : t ∈ timeouts)
    (s : Step) (rest : List Step) (hs : t.steps = s :: rest) :
    (OutKind.timeout, some t.on, s.id) ∈ hookEntries catches timeouts :=
  List.mem_append_right _ (List.mem_flatMap.mpr ⟨t, ht, mem_firstStepEntry _ _ hs⟩)

end Acts.C20

namespace Acts.C20
open Acts.Deploy

/-- the row of `id` after a deploy -/
theorem find?_deployModel (ms : List ModelRow) (id : String) (data : Nat) :
    (deployModel ms id data).find? (·.id == id) =
      some (match ms.find? (·.id == id) with
        | some m => { m with ver := m.ver + 1, data := data }
        | none => ⟨id, 1, data⟩) := by
  unfold deployModel
  split
  · next m hf =>
    rw [List.find?_map_of_invariant (fun x => by split <;> simp [*]), hf]
    simp [show m.id = id by simpa using List.find?_some hf]
  · next hf => simp [List.find?_append, hf]

theorem verOf_deploy (s : St) (id : String) (d : Nat) (ons : List String) (ver : Nat) :
    verOf (deploy s id d ons ver) id = some ((verOf s id).getD 0 + 1) := by
  simp only [verOf, deploy, find?_deployModel]
  cases s.models.find? (·.id == id) <;> simp

theorem verOf_foldl_deploy (s : St) (id : String) (d : Nat) (ds : List Nat) (ons : List String) (ver : Nat) :
    verOf ((d :: ds).foldl (fun st d => deploy st id d ons ver) s) id = some ((verOf s id).getD 0 + (d :: ds).length) := by
  induction ds generalizing s d with
  | nil => exact verOf_deploy ..
  | cons d' ds ih => rw [List.foldl_cons, ih, verOf_deploy]; simp +arith

/-- deploy raises the version by exactly one per deploy: after `n` deploys of a fresh id the version is `n`, and the stored
text is the last one given -/
theorem ver_counts (n : Nat) (s : St) (id : String) (hfresh : verOf s id = none) (datas : List Nat) (hlen : datas.length = n)
    (ons : List String) (ver : Nat) :
    verOf (datas.foldl (fun st d => deploy st id d ons ver) s) id = if n = 0 then none else some n := by
  subst hlen
  cases datas with
  | nil => simpa using hfresh
  | cons d ds => rw [verOf_foldl_deploy, hfresh]; simp

/-- deleting a model removes exactly its registered events and its row: rows of other models stay -/
theorem rm_exact (s : St) (id : String) :
    (∀ e ∈ (rm s id).events, e.mid ≠ id ∧ e ∈ s.events) ∧ (∀ e ∈ s.events, e.mid ≠ id → e ∈ (rm s id).events) ∧
    (∀ m ∈ (rm s id).models, m.id ≠ id ∧ m ∈ s.models) ∧ (∀ m ∈ s.models, m.id ≠ id → m ∈ (rm s id).models) := by
  simp only [rm, List.mem_filter, bne_iff_ne, ne_eq]
  exact ⟨fun e h => ⟨h.2, h.1⟩, fun e h hne => ⟨h, hne⟩, fun m h => ⟨h.2, h.1⟩, fun m h hne => ⟨h, hne⟩⟩

/-- one `on` entry registers exactly one event, keyed by model id and act id -/
theorem deployEvent_registers (es : List EventRow) (mid aid : String) (ver : Nat) :
    ∃ e ∈ deployEvent es mid aid ver, e.id = eventId mid aid := by
  simp only [deployEvent]
  split
  · next e hf =>
    have hmem := List.mem_of_find?_eq_some hf
    have hid : e.id = eventId mid aid := by simpa using List.find?_some hf
    split
    · exact ⟨e, hmem, hid⟩
    · exact ⟨_, List.mem_map_of_mem hmem, by simp [hid]⟩
  · exact ⟨⟨eventId mid aid, mid, ver⟩, by simp, rfl⟩

end Acts.C20
