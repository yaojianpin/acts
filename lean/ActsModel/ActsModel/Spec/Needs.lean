import ActsModel.Gen.State

/-!
C04, the clause "a needs-branch starts after a needed sibling finished", as a predicate on the stream of creations and state writes of one
process — for every instance of the branch (a step may be entered more than once): when a task of a branch with `needs` leaves `pending`,
a task of a branch it names, created beneath the same task of the step, is in a terminal state.
-/
namespace Acts.Spec
open Acts.Gen

structure NTask where
  tid : Nat
  nid : String
  prev : Option Nat
  state : TaskState := .none
  deriving Repr

inductive NEv where
  | new (t : NTask)
  | tr (tid : Nat) (old new : TaskState)
  deriving Repr

/-- the siblings the branch task `t` waits for: tasks created beneath the same step task whose node is named in `ns` -/
def neededSiblings (ts : List NTask) (t : NTask) (ns : List String) : List NTask :=
  ts.filter fun s => s.tid != t.tid && s.prev == t.prev && ns.contains s.nid

def needsStep (needs : List (String × List String)) (ts : List NTask) (i : Nat) : NEv → List NTask × Option (Nat × Nat)
  | .new t => (ts ++ [t], none)
  | .tr tid old new =>
    let ts' := ts.map fun t => if t.tid == tid then { t with state := new } else t
    match ts.find? (·.tid == tid) with
    | none => (ts', none)
    | some t =>
      match needs.lookup t.nid with
      | none => (ts', none)
      | some ns =>
        if old == .pending && new == .running && !(neededSiblings ts t ns).any (·.state.isCompleted) then (ts', some (i, tid))
        else (ts', none)

/-- first position (and task) at which a needs-branch left `pending` with none of its needed siblings ended -/
def needsMonitor (needs : List (String × List String)) : List NTask → Nat → List NEv → Option (Nat × Nat)
  | _, _, [] => none
  | ts, i, e :: es =>
    match needsStep needs ts i e with
    | (_, some v) => some v
    | (ts', none) => needsMonitor needs ts' (i + 1) es

def needsRun (needs : List (String × List String)) : List NTask → Nat → List NEv → List NTask
  | ts, _, [] => ts
  | ts, i, e :: es => needsRun needs (needsStep needs ts i e).1 (i + 1) es

end Acts.Spec
