import ActsModel.Spec.Ref

/-!
The reference interpretation (`Spec/Ref.lean`) seen from the proofs: every list-level function is a fold from core, every
branch-level function asks one question of the guard (`Guard.runs`), and one induction principle walks the mutual AST.
-/
namespace Acts.Ref

/-- structural induction over steps and branches at once: a step may assume the claim for its branches, a branch for its steps -/
theorem RStep.induct {P : RStep → Prop} {Q : RBranch → Prop}
    (step : ∀ i c bs as, (∀ b ∈ bs, Q b) → P (.mk i c bs as))
    (branch : ∀ i g ss, (∀ s ∈ ss, P s) → Q (.mk i g ss)) : (∀ s, P s) ∧ (∀ b, Q b) :=
  ⟨goStep, goBranch⟩
where
  goStep : ∀ s, P s
    | .mk i c bs as => step i c bs as (goBranches bs)
  goBranches : ∀ bs : List RBranch, ∀ b ∈ bs, Q b
    | [] => fun _ h => nomatch h
    | b :: bs => List.forall_mem_cons.2 ⟨goBranch b, goBranches bs⟩
  goBranch : ∀ b, Q b
    | .mk i g ss => branch i g ss (goSteps ss)
  goSteps : ∀ ss : List RStep, ∀ s ∈ ss, P s
    | [] => fun _ h => nomatch h
    | s :: ss => List.forall_mem_cons.2 ⟨goStep s, goSteps ss⟩

/-! ### The list-level functions are folds -/

variable (a : Answered) (sc sd : Bool) (tm : List String)

theorem doneSteps_eq (ss : List RStep) : doneSteps a ss = ss.all (doneStep a) := by
  induction ss <;> simp [doneSteps, *]

theorem doneBranches_eq (bs : List RBranch) : doneBranches a sc tm bs = bs.all (doneBranch a sc tm) := by
  induction bs <;> simp [doneBranches, *]

theorem doneActs_eq (as : List RAct) : doneActs a as = as.all (doneAct a) := by
  induction as <;> simp [doneActs, *]

theorem termIds_eq (bs : List RBranch) : termIds a bs = bs.flatMap (termId a) := by
  induction bs <;> simp [termIds, *]

theorem opensBranches_eq (bs : List RBranch) : opensBranches a sc tm bs = bs.flatMap (opensBranch a sc tm) := by
  induction bs <;> simp [opensBranches, *]

theorem statesBranches_eq (bs : List RBranch) :
    statesBranches a sc sd tm bs = bs.flatMap (statesBranch a sc sd tm) := by
  induction bs <;> simp [statesBranches, *]

theorem anyCondHolds_eq (bs : List RBranch) : anyCondHolds bs = bs.any RBranch.condHolds := by
  induction bs <;> simp [anyCondHolds, *]

theorem anyHoldingDone_eq (bs : List RBranch) : anyHoldingDone a tm bs = bs.any (holdingDone a tm) := by
  induction bs <;> simp [anyHoldingDone, *]

theorem wfSteps_eq (ss : List RStep) : wfSteps ss = ss.all wfStep := by
  induction ss <;> simp [wfSteps, *]

theorem wfBranches_eq (cids : List String) (bs : List RBranch) : wfBranches cids bs = bs.all (wfBranch cids) := by
  induction bs <;> simp [wfBranches, *]

theorem wfSteps_of_wfBranch {cids : List String} {i : String} {g : Guard} {ss : List RStep}
    (h : wfBranch cids (.mk i g ss) = true) : wfSteps ss = true := by
  simp only [wfBranch, Bool.and_eq_true] at h
  exact h.2

/-! ### Sequential composition: steps of a list, and acts of a step, run one after the other -/

/-- what a sequence has open is what its first unfinished member has open -/
def seqOpens {α : Type} (done : α → Bool) (opens : α → List String) (l : List α) : List String :=
  ((l.find? (!done ·)).map opens).getD []

theorem opensSteps_eq (ss : List RStep) : opensSteps a ss = seqOpens (doneStep a) (opensStep a) ss := by
  induction ss with
  | nil => rfl
  | cons s ss ih => cases h : doneStep a s <;> simp [opensSteps, seqOpens, h, ih]

theorem opensActs_eq (as : List RAct) : opensActs a as = seqOpens (doneAct a) (opensAct a) as := by
  induction as with
  | nil => rfl
  | cons x xs ih => cases h : doneAct a x <;> simp [opensActs, seqOpens, h, ih]

section seq
variable {α : Type} {done : α → Bool} {opens : α → List String} {l : List α}

theorem seqOpens_of_all (h : l.all done = true) : seqOpens done opens l = [] := by
  rw [seqOpens, List.find?_eq_none.2 (by simpa using h)]
  rfl

theorem mem_seqOpens {i : String} (h : i ∈ seqOpens done opens l) : ∃ x ∈ l, i ∈ opens x := by
  unfold seqOpens at h
  cases hf : l.find? (!done ·) with
  | none => simp [hf] at h
  | some x => exact ⟨x, List.mem_of_find?_eq_some hf, by simpa [hf] using h⟩

/-- if every member is finished or has something open, so has the sequence -/
theorem seqOpens_ne_nil (h : ∀ x ∈ l, done x = true ∨ opens x ≠ []) : l.all done = true ∨ seqOpens done opens l ≠ [] := by
  unfold seqOpens
  cases hf : l.find? (!done ·) with
  | none => exact Or.inl (by simpa using hf)
  | some x =>
    have hx : done x = false := by simpa using List.find?_some hf
    exact Or.inr (by simpa using (h x (List.mem_of_find?_eq_some hf)).resolve_left (by simp [hx]))

end seq

/-! ### Which condition branches there are, and which have ended -/

theorem mem_condIds {n : String} {bs : List RBranch} : n ∈ condIds bs ↔ ∃ hc ss, RBranch.mk n (.cond hc) ss ∈ bs := by
  simp only [condIds, List.mem_map, List.mem_filter]
  constructor
  · rintro ⟨⟨i, g, ss⟩, ⟨hb, hg⟩, rfl⟩
    cases g with
    | cond hc => exact ⟨hc, ss, hb⟩
    | _ => cases hg
  · rintro ⟨hc, ss, hb⟩
    exact ⟨_, ⟨hb, rfl⟩, rfl⟩

theorem mem_termId_cond {n i : String} {hc : Bool} {ss : List RStep} :
    n ∈ termId a (.mk i (.cond hc) ss) ↔ n = i ∧ (hc = false ∨ doneSteps a ss = true) := by
  cases hc <;> simp [termId, and_comm]

/-- a condition branch has ended when it was skipped or its steps have run to their end -/
theorem mem_termIds {n : String} {bs : List RBranch} :
    n ∈ termIds a bs ↔ ∃ hc ss, RBranch.mk n (.cond hc) ss ∈ bs ∧ (hc = false ∨ doneSteps a ss = true) := by
  simp only [termIds_eq, List.mem_flatMap]
  constructor
  · rintro ⟨⟨i, g, ss⟩, hb, hn⟩
    cases g with
    | cond hc =>
      obtain ⟨rfl, h⟩ := (mem_termId_cond a).1 hn
      exact ⟨hc, ss, hb, h⟩
    | _ => cases hn
  · rintro ⟨hc, ss, hb, h⟩
    exact ⟨_, hb, (mem_termId_cond a).2 ⟨rfl, h⟩⟩

/-! ### What a guard decides -/

/-- do the steps of a branch with this guard run? `sc`: something took the step; `tm`: the condition branches that have ended -/
def Guard.runs (sc : Bool) (tm : List String) : Guard → Bool
  | .cond h => h
  | .otherwise => !sc
  | .needs ns => ns.any (tm.contains ·)

@[simp] theorem RBranch.guard_mk (i : String) (g : Guard) (ss : List RStep) : (RBranch.mk i g ss).guard = g := rfl

variable {a} {sc tm} {g : Guard} {i : String} {ss : List RStep}

/-- a branch that runs is as far as its steps are; one that does not is skipped — finished — unless it waits for a `needs` -/
theorem doneBranch_eq :
    doneBranch a sc tm (.mk i g ss) = if g.runs sc tm then doneSteps a ss else !(g matches .needs _) := by
  cases g with
  | cond h => cases h <;> rfl
  | otherwise => cases sc <;> rfl
  | needs ns => simp only [doneBranch, Guard.runs]; rfl

theorem opensBranch_eq : opensBranch a sc tm (.mk i g ss) = if g.runs sc tm then opensSteps a ss else [] := by
  cases g with
  | cond h => cases h <;> rfl
  | otherwise => cases sc <;> rfl
  | needs ns => rfl

/-- finished ⇒ nothing open: a list of steps all of which are done has no first unfinished step -/
theorem opensSteps_of_done (h : doneSteps a ss = true) : opensSteps a ss = [] := by
  rw [opensSteps_eq, seqOpens_of_all (doneSteps_eq a ss ▸ h)]

end Acts.Ref
