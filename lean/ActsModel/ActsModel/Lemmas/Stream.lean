import ActsModel.Spec.Stream
import ActsModel.Lemmas.Basic
import ActsModel.Lemmas.Monitor

/-!
Helper lemmas about the C08 monitor (`Spec/Stream.lean`): the monitor as an instance of the fold of `Lemmas/Monitor.lean`, and what
a step that it lets pass has checked and done. The property theorems built from these are in `Props/C08.lean`.
-/
namespace Acts.Spec
open Acts.Gen

def streamRun : SState → Nat → List SEv → SState
  | st, _, [] => st
  | st, i, e :: es => streamRun (streamStep st i e).1 (i + 1) es

theorem streamMonitor_eq (st : SState) (i : Nat) (evs : List SEv) : streamMonitor st i evs = Mon.first streamStep st i evs := by
  induction evs generalizing st i with
  | nil => rfl
  | cons e es ih => rw [streamMonitor, Mon.first, ← ih]; rcases streamStep st i e with ⟨_, _ | _⟩ <;> rfl

theorem streamRun_eq (st : SState) (i : Nat) (evs : List SEv) : streamRun st i evs = Mon.run streamStep st i evs := by
  induction evs generalizing st i with
  | nil => rfl
  | cons e es ih => rw [streamRun, Mon.run, ih]

theorem genDescribes_none {st : SState} {t : STask} {m : SMsg} : genDescribes st t m = none ↔
    st.mids.contains m.mid = false ∧ t.kind ≠ "branch" ∧ m.pid = st.pid ∧ m.nid = t.nid ∧ m.type = t.kind ∧ m.uses = t.uses ∧
    m.state = (msgStateOf t.state).toStr := by
  simp [genDescribes, ite_some_eq_none, and_assoc]

theorem genOrdered_none {st : SState} {t : STask} {m : SMsg} : genOrdered st t m = none ↔
    if m.isTerm then t.terminal = 0
    else t.created = 0 ∧ t.terminal = 0 ∧ isMsgAct t = false ∧
      ∀ p, sParent st.tasks t = some p → reports p = true → isMsgAct p = false → p.created ≥ 1 := by
  unfold genOrdered
  cases sParent st.tasks t <;> split <;> simp [ite_some_eq_none, ite_else_some_eq_none, Nat.one_le_iff_ne_zero]

/-- a generated message passes iff it is for an announced task, which it describes, and comes in order -/
theorem streamStep_gen_pass {st : SState} {i : Nat} {m : SMsg} : (streamStep st i (.gen m)).2 = none ↔
    ∃ t, st.tasks.find? (·.tid == m.tid) = some t ∧ genDescribes st t m = none ∧ genOrdered st t m = none := by
  simp only [streamStep]
  cases st.tasks.find? (·.tid == m.tid) with
  | none => simp
  | some t => cases hd : genDescribes st t m <;> simp [hd]

theorem streamStep_gen_fst {st : SState} {i : Nat} {m : SMsg} {t : STask} (hf : st.tasks.find? (·.tid == m.tid) = some t)
    (hd : genDescribes st t m = none) : (streamStep st i (.gen m)).1 =
      { st with mids := m.mid :: st.mids, tasks := st.tasks.map fun x => if x.tid == t.tid then countMsg t m else x } := by
  simp only [streamStep, hf, hd]

theorem streamStep_done_fst (st : SState) (i : Nat) : (streamStep st i .done).1 = st := by
  simp only [streamStep]
  split
  · rfl
  · split <;> rfl

/-- what the monitor demands at the end of a run -/
theorem streamStep_done_pass (st : SState) (i : Nat) (h : (streamStep st i .done).2 = none) :
    ∀ t ∈ st.tasks, reports t = true →
      (isMsgAct t = false → t.everCreated = true → t.created ≥ 1) ∧ (t.state.isCompleted = true → t.terminal ≥ 1) := by
  simp only [streamStep] at h
  split at h
  · cases h
  · rename_i h1
    split at h
    · cases h
    · rename_i h2
      intro t ht hr
      have a := List.find?_eq_none.mp h1 t ht
      have b := List.find?_eq_none.mp h2 t ht
      simp [hr] at a b
      exact ⟨fun hm he => Nat.pos_of_ne_zero (a hm he), fun hc => Nat.pos_of_ne_zero (b hc)⟩

theorem streamStep_pid (st : SState) (i : Nat) (e : SEv) : (streamStep st i e).1.pid = st.pid := by
  cases e with
  | new t => rfl
  | tr tid s => rfl
  | done => rw [streamStep_done_fst]
  | gen m =>
    simp only [streamStep]
    split
    · rfl
    · split <;> rfl

-- ------------------------------------------------------------------ message ids

/-- ids of the generated messages of a stream, in order -/
def genMids : List SEv → List String
  | [] => []
  | .gen m :: es => m.mid :: genMids es
  | _ :: es => genMids es

theorem genMids_append (a b : List SEv) : genMids (a ++ b) = genMids a ++ genMids b := by
  induction a with
  | nil => rfl
  | cons e es ih => cases e <;> simp [genMids, ih]

/-- a passing step puts the id of a generated message, which is a fresh one, in front of the ids seen -/
theorem streamStep_pass_mids {st : SState} {i : Nat} {e : SEv} (h : (streamStep st i e).2 = none) :
    (streamStep st i e).1.mids = (genMids [e]).reverse ++ st.mids ∧ (st.mids.Nodup → (streamStep st i e).1.mids.Nodup) := by
  cases e with
  | gen m =>
    have ⟨t, hf, hd, _⟩ := streamStep_gen_pass.mp h
    have hfresh : m.mid ∉ st.mids := by simpa using (genDescribes_none.mp hd).1
    rw [streamStep_gen_fst hf hd]
    exact ⟨rfl, fun hn => List.nodup_cons.mpr ⟨hfresh, hn⟩⟩
  | done => simp [streamStep_done_fst, genMids]
  | _ => simp [streamStep, genMids]

/-- the monitor's list of ids after an accepted stream: the ids of the stream's messages, latest first, none of them twice -/
theorem accepted_mids {st : SState} {i : Nat} {evs : List SEv} (h : Mon.first streamStep st i evs = none) (hn : st.mids.Nodup) :
    (Mon.run streamStep st i evs).mids = (genMids evs).reverse ++ st.mids ∧ (Mon.run streamStep st i evs).mids.Nodup := by
  refine Mon.run_rel (R := fun s pre => s.mids = (genMids pre).reverse ++ st.mids ∧ s.mids.Nodup) (pre := []) h
    (fun s j pre e _ hR hp => ?_) ⟨rfl, hn⟩
  have ⟨h1, h2⟩ := streamStep_pass_mids hp
  exact ⟨by rw [h1, hR.1, genMids_append, List.reverse_append, List.append_assoc], h2 hR.2⟩

-- ------------------------------------------------------------------ per task: at most one created and one terminal message

/-- the record the monitor keeps for task `x` -/
def recOf (st : SState) (x : Nat) : Option STask := st.tasks.find? (·.tid == x)

def seenTerm (st : SState) (x : Nat) : Nat := match recOf st x with | some t => t.terminal | none => 0
def seenCreated (st : SState) (x : Nat) : Nat := match recOf st x with | some t => t.created | none => 0

def isTermGen (x : Nat) : SEv → Bool
  | .gen m => m.tid == x && m.isTerm
  | _ => false

def isCreatedGen (x : Nat) : SEv → Bool
  | .gen m => m.tid == x && !m.isTerm
  | _ => false

/-- the stream announces tasks with empty counters (what the driver builds from a creation record) -/
def wfEv : SEv → Prop
  | .new t => t.terminal = 0 ∧ t.created = 0
  | _ => True

theorem countMsg_tid (t : STask) (m : SMsg) : (countMsg t m).tid = t.tid := by
  unfold countMsg; split <;> rfl

/-- how a step that passes moves the two counters of task `x`, and where they stood when it was a message of `x` that passed -/
theorem streamStep_pass_counts {st : SState} {i : Nat} {e : SEv} (x : Nat) (h : (streamStep st i e).2 = none) (hw : wfEv e) :
    (seenTerm (streamStep st i e).1 x = seenTerm st x + (if isTermGen x e then 1 else 0) ∧ (isTermGen x e = true → seenTerm st x = 0)) ∧
    (seenCreated (streamStep st i e).1 x = seenCreated st x + (if isCreatedGen x e then 1 else 0) ∧
      (isCreatedGen x e = true → seenCreated st x = 0)) ∧
    (isCreatedGen x e = true → seenTerm st x = 0) := by
  cases e with
  | done => simp [streamStep_done_fst, isTermGen, isCreatedGen]
  | new t =>
    -- a record of `x` that is there stays the first one; a new one comes with empty counters
    simp only [streamStep, seenTerm, seenCreated, recOf, isTermGen, isCreatedGen, List.find?_append]
    cases st.tasks.find? (·.tid == x) with
    | some a => simp
    | none => cases hx : t.tid == x <;> simp [List.find?, hx, hw.1, hw.2]
  | tr tid s =>
    simp only [streamStep, seenTerm, seenCreated, recOf, isTermGen, isCreatedGen]
    rw [List.find?_map_of_invariant (by intro a; split <;> rfl)]
    cases st.tasks.find? (·.tid == x) with
    | none => simp
    | some a => simp only [Option.map_some]; split <;> simp
  | gen m =>
    have ⟨t, hf, hd, ho⟩ := streamStep_gen_pass.mp h
    have htid : t.tid = m.tid := by simpa using List.find?_some hf
    -- the step replaces the record of `m.tid`, which is `t`, by `countMsg t m` and keeps every tid
    simp only [streamStep_gen_fst hf hd, seenTerm, seenCreated, recOf, isTermGen, isCreatedGen]
    rw [List.find?_map_of_invariant fun a => by
      split
      · next hat => rw [countMsg_tid, ← eq_of_beq hat]
      · rfl]
    by_cases hx : m.tid = x
    · -- a message of `x`: it is counted on the side `m.isTerm` says, and `genOrdered` found that side (for a created message both) at zero
      subst hx
      have hord := genOrdered_none.mp ho
      simp only [hf, Option.map_some, htid, beq_self_eq_true, ↓reduceIte, Bool.true_and]
      cases hterm : m.isTerm <;> simp only [hterm, Bool.false_eq_true, ↓reduceIte] at hord <;> simp [countMsg, hterm, hord]
    · -- a message of another task: the record of `x`, if there is one, is not the one replaced
      cases hfx : st.tasks.find? (·.tid == x) with
      | none => simp [hx]
      | some a =>
        have hax : a.tid = x := by simpa using List.find?_some hfx
        have hat : ¬ a.tid = t.tid := fun h => hx (htid ▸ h ▸ hax)
        simp [hx, hat]
end Acts.Spec
