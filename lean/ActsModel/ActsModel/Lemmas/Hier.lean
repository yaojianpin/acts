import ActsModel.Spec.Hier
import ActsModel.Lemmas.Basic
import ActsModel.Lemmas.Monitor

/-!
Helper lemmas about the C03 monitor (`Spec/Hier.lean`): the monitor as an instance of the fold of `Lemmas/Monitor.lean`, and what
a step that it lets pass has checked. The property theorems built from these are in `Props/C03.lean`.
-/
namespace Acts.Spec
open Acts.Gen

/-- the state the monitor is in after a list of events (verdicts ignored) -/
def hierRun : HState → Nat → List HEv → HState
  | st, _, [] => st
  | st, i, e :: es => hierRun (hierStep st i e).1 (i + 1) es

def isStartEv : HEv → Bool
  | .pev k => k == "start"
  | _ => false

def isTerminalEv : HEv → Bool
  | .pev k => !(k == "start")
  | _ => false

def isCompleteEv : HEv → Bool
  | .pev k => k == "complete"
  | _ => false

def startCount (evs : List HEv) : Nat := (evs.filter isStartEv).length
def terminalCount (evs : List HEv) : Nat := (evs.filter isTerminalEv).length

theorem hierMonitor_eq (st : HState) (i : Nat) (evs : List HEv) : hierMonitor st i evs = Mon.first hierStep st i evs := by
  induction evs generalizing st i with
  | nil => rfl
  | cons e es ih => rw [hierMonitor, Mon.first, ← ih]; rcases hierStep st i e with ⟨_, _ | _⟩ <;> rfl

theorem hierRun_eq (st : HState) (i : Nat) (evs : List HEv) : hierRun st i evs = Mon.run hierStep st i evs := by
  induction evs generalizing st i with
  | nil => rfl
  | cons e es ih => rw [hierRun, Mon.run, ih]

/-- the state after a step; the verdict has no part in it -/
def hierNext (st : HState) : HEv → HState
  | .new t => { st with tasks := st.tasks ++ [t] }
  | .hook tid => { st with tasks := st.tasks.map fun t => if t.tid == tid then { t with hook := true } else t }
  | .tr tid s => { st with tasks := st.tasks.map fun t => if t.tid == tid then { t with state := s } else t }
  | .pev kind =>
    if kind == "start" then { st with starts := st.starts + 1 }
    else { st with terminals := st.terminals + 1, nonErrorEnd := st.nonErrorEnd || kind == "complete" }
  | .quiescent _ => st

theorem hierStep_fst (st : HState) (i : Nat) (e : HEv) : (hierStep st i e).1 = hierNext st e := by
  cases e <;> simp only [hierStep, hierNext]
  -- the other three events: a tree of tests, the same state at every leaf
  all_goals repeat' split
  all_goals rfl

/-- the counters count the start and the terminal events, the flag records a `complete` event -/
theorem hierStep_counters (st : HState) (i : Nat) (e : HEv) :
    (hierStep st i e).1.starts = st.starts + (if isStartEv e then 1 else 0) ∧
    (hierStep st i e).1.terminals = st.terminals + (if isTerminalEv e then 1 else 0) ∧
    (hierStep st i e).1.nonErrorEnd = (st.nonErrorEnd || isCompleteEv e) := by
  rw [hierStep_fst]
  cases e with
  | pev k => by_cases h : k = "start" <;> simp [hierNext, isStartEv, isTerminalEv, isCompleteEv, h]
  | _ => simp [hierNext, isStartEv, isTerminalEv, isCompleteEv]

theorem hierStep_pev_pass (st : HState) (i : Nat) (k : String) :
    (hierStep st i (.pev k)).2 = none ↔ if k = "start" then st.starts = 0 else st.terminals = 0 ∧ st.starts ≠ 0 := by
  simp only [hierStep, beq_iff_eq]
  split <;> simp [apply_ite Prod.snd, ite_some_eq_none]

/-- a start event passes only as the first one -/
theorem hierStep_pass_start {st : HState} {i : Nat} {e : HEv} (h : (hierStep st i e).2 = none) (he : isStartEv e = true) :
    st.starts = 0 := by
  cases e with
  | pev k => simpa [show k = "start" by simpa [isStartEv] using he] using (hierStep_pev_pass st i k).mp h
  | _ => cases he

/-- a terminal event passes only as the first one, and with a start event before it -/
theorem hierStep_pass_terminal {st : HState} {i : Nat} {e : HEv} (h : (hierStep st i e).2 = none) (he : isTerminalEv e = true) :
    st.terminals = 0 ∧ st.starts ≠ 0 := by
  cases e with
  | pev k => simpa [show k ≠ "start" by simpa [isTerminalEv] using he] using (hierStep_pev_pass st i k).mp h
  | _ => cases he

/-- what the monitor demands at a `completed` write: stated on the state after the write -/
def openBeneath (tasks : List HTask) (tid : Nat) : Option HTask :=
  tasks.find? fun t => !t.state.isCompleted && !t.hook && hHasAncestor tasks tid t

theorem hierStep_completed_pass (st : HState) (i : Nat) (tid : Nat) (h : (hierStep st i (.tr tid .completed)).2 = none) :
    openBeneath (hierStep st i (.tr tid .completed)).1.tasks tid = none := by
  rw [hierStep_fst]
  simp only [hierStep, beq_self_eq_true, ↓reduceIte] at h
  -- the verdict is a match on `openBeneath` of the new task list
  split at h
  · cases h
  · assumption

theorem hierStep_quiescent_pass (st : HState) (i : Nat) (ps : TaskState) (r : HTask)
    (hr : st.tasks.find? (·.tid == 0) = some r) (h : (hierStep st i (.quiescent ps)).2 = none) :
    (r.state = ps ∨ (r.state = .none ∧ ps = .running)) ∧
    (st.nonErrorEnd = true → ∀ t ∈ st.tasks, t.state.isCompleted = true ∨ t.hook = true) ∧
    (r.state.isCompleted = true → st.nonErrorEnd = true ∨ st.terminals ≥ 1) := by
  -- the verdict is a chain of tests, silent iff each of them fails
  simp only [hierStep, hr, apply_ite Prod.snd, ite_some_eq_none] at h
  obtain ⟨hb, h⟩ := h
  refine ⟨by simpa [Classical.or_iff_not_imp_left] using hb, fun hne => ?_, fun hc => ?_⟩
  · simp only [hne, ↓reduceIte] at h
    split at h
    · cases h
    · rename_i hn
      simpa [Classical.or_iff_not_imp_left] using hn
  · cases hne : st.nonErrorEnd
    · simp only [hne, Bool.false_eq_true, ↓reduceIte, ite_some_eq_none, hc, Bool.true_and, beq_iff_eq] at h
      exact .inr (Nat.pos_of_ne_zero h.1)
    · exact .inl rfl

end Acts.Spec
