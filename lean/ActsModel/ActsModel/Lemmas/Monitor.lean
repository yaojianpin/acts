/-!
The stream monitors of the specification (`hierMonitor`, `streamMonitor`, `needsMonitor`) are each written as their own recursion,
and all have one shape: a step function `step : σ → Nat → ε → σ × Option ν` is run over the stream with a position counter, and the first
verdict is the result. Here is that fold, once (each monitor is proved equal to it: `hierMonitor_eq`, `streamMonitor_eq`,
`needsMonitor_eq`), with what holds along a stream it accepts: every step passes on the state its prefix leaves (`pass_at`), and
whatever relates the state to the events read so far and survives a passing step holds at the end (`run_rel`).
-/
namespace Acts.Mon

variable {σ ε ν : Type} (step : σ → Nat → ε → σ × Option ν)

/-- the state after the stream, verdicts ignored -/
def run : σ → Nat → List ε → σ
  | st, _, [] => st
  | st, i, e :: es => run (step st i e).1 (i + 1) es

/-- the first verdict -/
def first : σ → Nat → List ε → Option ν
  | _, _, [] => none
  | st, i, e :: es => (step st i e).2.or (first (step st i e).1 (i + 1) es)

variable {step} {st : σ} {i : Nat} {e : ε} {es pre post : List ε}

theorem first_cons_eq_none :
    first step st i (e :: es) = none ↔ (step st i e).2 = none ∧ first step (step st i e).1 (i + 1) es = none :=
  Option.or_eq_none_iff

theorem run_append (a b : List ε) : run step st i (a ++ b) = run step (run step st i a) (i + a.length) b := by
  induction a generalizing st i with
  | nil => rfl
  | cons x xs ih => simp only [List.cons_append, run, ih, List.length_cons, Nat.add_assoc, Nat.add_comm 1]

theorem first_append_eq_none {a b : List ε} :
    first step st i (a ++ b) = none ↔ first step st i a = none ∧ first step (run step st i a) (i + a.length) b = none := by
  induction a generalizing st i with
  | nil => simp [first, run]
  | cons x xs ih =>
    simp only [List.cons_append, first_cons_eq_none, ih, run, List.length_cons, Nat.add_assoc, Nat.add_comm 1, and_assoc]

/-- in an accepted stream every event passes on the state that the events before it leave -/
theorem pass_at (h : first step st i (pre ++ e :: post) = none) :
    first step st i pre = none ∧ (step (run step st i pre) (i + pre.length) e).2 = none :=
  have ⟨h1, h2⟩ := first_append_eq_none.mp h
  ⟨h1, (first_cons_eq_none.mp h2).1⟩

/-- Induction along an accepted stream: a relation between the state and the events read so far that survives every step
the monitor lets pass holds at the end. -/
theorem run_rel {R : σ → List ε → Prop} (hf : first step st i es = none)
    (h : ∀ st i pre, ∀ e ∈ es, R st pre → (step st i e).2 = none → R (step st i e).1 (pre ++ [e]))
    (h0 : R st pre) : R (run step st i es) (pre ++ es) := by
  induction es generalizing st i pre with
  | nil => simpa [run] using h0
  | cons e es ih =>
    have ⟨h1, h2⟩ := first_cons_eq_none.mp hf
    simpa [run] using ih h2 (fun st i pre e he => h st i pre e (List.mem_cons_of_mem _ he)) (h st i pre e List.mem_cons_self h0 h1)

theorem run_inv {Inv : σ → Prop} (hf : first step st i es = none)
    (h : ∀ st i, ∀ e ∈ es, Inv st → (step st i e).2 = none → Inv (step st i e).1) (h0 : Inv st) : Inv (run step st i es) :=
  run_rel (R := fun s _ => Inv s) (pre := []) hf (fun s j _ => h s j) h0

/-- a counter of the state that goes up at the passing `p`-events is, after an accepted stream, the count of the `p`-events -/
theorem count_run {c : σ → Nat} {p : ε → Bool} (hf : first step st i es = none)
    (h : ∀ st i, ∀ e ∈ es, (step st i e).2 = none → c (step st i e).1 = c st + (if p e then 1 else 0)) :
    c (run step st i es) = c st + (es.filter p).length := by
  refine run_rel (R := fun s pre => c s = c st + (pre.filter p).length) (pre := []) hf (fun s j pre e he hR hp => ?_) rfl
  rw [h s j e he hp, hR, List.filter_append, List.length_append, Nat.add_assoc, List.filter_cons]
  split <;> rfl

/-- … and stays at most one when a `p`-event only passes where the counter is zero -/
theorem count_le_one {c : σ → Nat} {p : ε → Bool} (hf : first step st i es = none)
    (h : ∀ st i, ∀ e ∈ es, (step st i e).2 = none → c (step st i e).1 = c st + (if p e then 1 else 0) ∧ (p e = true → c st = 0))
    (h1 : c st ≤ 1) : c st + (es.filter p).length ≤ 1 := by
  rw [← count_run hf fun s j e he hp => (h s j e he hp).1]
  refine run_inv (Inv := fun s => c s ≤ 1) hf (fun s j e he hs hp => ?_) h1
  have ⟨h2, h3⟩ := h s j e he hp
  rw [h2]
  split
  · rw [h3 ‹_›]; exact Nat.le_refl 1
  · exact hs

/-- a flag of the state that is raised at the passing `p`-events says, after an accepted stream, whether there was a `p`-event -/
theorem any_run {c : σ → Bool} {p : ε → Bool} (hf : first step st i es = none)
    (h : ∀ st i, ∀ e ∈ es, (step st i e).2 = none → c (step st i e).1 = (c st || p e)) :
    c (run step st i es) = (c st || es.any p) := by
  refine run_rel (R := fun s pre => c s = (c st || pre.any p)) (pre := []) hf (fun s j pre e he hR hp => ?_) (by simp)
  simp [h s j e he hp, hR, Bool.or_assoc]

end Acts.Mon
