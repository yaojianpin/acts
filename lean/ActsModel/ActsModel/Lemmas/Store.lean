import ActsModel.Model.Store
import ActsModel.Lemmas.Basic

/-!
What the in-memory evaluation of `Model/Store.lean` computes, said about membership: the id sets of a group and of a
query, and `find` after each CRUD operation.
-/
namespace Acts.Store

-- ------------------------------------------------------------------ id sets

/-- the set of an AND group is the intersection, that of an OR group the union of its expressions' sets -/
theorem mem_condSet {db : List Row} {c : Cond} (hne : c.exprs ≠ []) {x : String} :
    x ∈ condSet db c ↔ if c.isAnd then ∀ e ∈ c.exprs, x ∈ exprSet db e else ∃ e ∈ c.exprs, x ∈ exprSet db e := by
  unfold condSet
  cases hex : c.exprs with
  | nil => exact absurd hex hne
  | cons e es =>
    cases c.isAnd
    · simp only [Bool.false_eq_true, ↓reduceIte, List.foldl_append_eq_flatMap (f := exprSet db), ← List.flatMap_cons,
        List.mem_flatMap]
    · simp only [↓reduceIte, List.mem_foldl_filter_contains (f := exprSet db), List.forall_mem_cons]

theorem mem_querySet {db : List Row} {q : Query} (hne : q.conds ≠ []) {x : String} :
    x ∈ querySet db q ↔ ∀ c ∈ q.conds, x ∈ condSet db c := by
  unfold querySet
  cases hq : q.conds with
  | nil => exact absurd hq hne
  | cons c cs => simp only [List.mem_foldl_filter_contains (f := condSet db), List.forall_mem_cons]

section
variable {db : List Row} (hnd : (db.map (·.id)).Nodup) {r : Row} (hr : r ∈ db)
include hnd hr

/-- with distinct ids, the id of a row is selected iff the row is -/
theorem mem_exprSet {e : Expr} : r.id ∈ exprSet db e ↔ e.holds r = true :=
  List.mem_map_filter_of_nodup hnd hr

theorem mem_condSet_id {c : Cond} (hne : c.exprs ≠ []) : r.id ∈ condSet db c ↔ c.holds r = true := by
  simp only [mem_condSet hne, mem_exprSet hnd hr, Cond.holds]
  split <;> simp

theorem mem_querySet_id {q : Query} (hq : q.conds ≠ []) (hwf : ∀ c ∈ q.conds, c.exprs ≠ []) :
    r.id ∈ querySet db q ↔ q.holds r = true := by
  rw [mem_querySet hq, Query.holds, List.all_eq_true]
  exact forall₂_congr fun c hc => mem_condSet_id hnd hr (hwf c hc)

end

-- ------------------------------------------------------------------ `find` after create / update / delete

theorem find_cons (x : Row) (xs : List Row) (k : String) : find (x :: xs) k = if x.id = k then some x else find xs k := by
  simp only [find, List.find?_cons]; split <;> simp_all

theorem find_some_id {db : List Row} {k : String} {x : Row} (h : find db k = some x) : x.id = k := by
  simpa using List.find?_some h

theorem find_create_eq (db : List Row) (r : Row) (k : String) :
    find (create db r) k = if r.id = k then some r else find db k := by
  unfold create
  induction db with
  | nil => rw [insertSorted, find_cons]
  | cons x xs ih =>
    unfold insertSorted
    split
    · rw [find_cons]
    · split
      · next h =>
        have : r.id = x.id := by simpa using h
        simp only [find_cons, ← this]; split <;> rfl
      · next h =>
        have : r.id ≠ x.id := by simpa using h
        rw [find_cons, ih, find_cons]
        split
        · subst_vars; simp [this]
        · rfl

/-- `update` maps every document to one of the same id, so it commutes with the search for an id -/
theorem find_update_eq (db : List Row) (r : Row) (k : String) :
    find (update db r) k = (find db k).map fun x => if x.id == r.id then r else x :=
  List.find?_map_of_invariant (fun x => by split <;> simp_all) db

theorem find_update_of_ne {db : List Row} {r : Row} {k : String} (h : k ≠ r.id) : find (update db r) k = find db k := by
  rw [find_update_eq]
  cases hx : find db k with
  | none => rfl
  | some x => simp [find_some_id hx, h]

theorem find_delete_eq (db : List Row) (id k : String) : find (delete db id) k = if k = id then none else find db k := by
  simp only [find, delete, List.find?_filter]
  split
  · simp_all
  · next h => congr; funext x; by_cases hx : x.id = k <;> simp [hx, h]

end Acts.Store
