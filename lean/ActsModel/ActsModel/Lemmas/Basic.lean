/-!
Facts about `Option` and `List` that several proof files use and core does not state.
-/

/-- A first-violation check `if c then some v else rest` is silent iff its guard fails and the rest is silent. -/
theorem ite_some_eq_none {α : Type _} {c : Prop} [Decidable c] {x : α} {r : Option α} :
    (if c then some x else r) = none ↔ ¬c ∧ r = none := by
  split <;> simp [*]

theorem ite_else_some_eq_none {α : Type _} {c : Prop} [Decidable c] {x : α} {r : Option α} :
    (if c then r else some x) = none ↔ c ∧ r = none := by
  split <;> simp [*]

theorem List.lookup_cons_eq_ite {α β} [BEq α] [LawfulBEq α] [DecidableEq α] {k a : α} {b : β} {l : List (α × β)} :
    ((k, b) :: l).lookup a = if a = k then some b else l.lookup a := by
  simp only [List.lookup_cons]; split <;> simp_all

/-- Filtering an association list on its keys keeps the entries of the keys that pass and loses the others. -/
theorem List.lookup_filter_fst {α β} [BEq α] [LawfulBEq α] (p : α → Bool) (l : List (α × β)) (k : α) :
    (l.filter (fun e => p e.1)).lookup k = if p k then l.lookup k else none := by
  induction l with
  | nil => simp
  | cons e l ih =>
    obtain ⟨a, b⟩ := e
    by_cases h : k = a
    · subst h; cases hp : p k <;> simp [hp, ih]
    · have : (k == a) = false := by simpa using h
      cases hp : p a <;> simp [hp, ih, List.lookup_cons, this]

/-- Mapping with a function that does not change the predicate commutes with `find?`. -/
theorem List.find?_map_of_invariant {α : Type _} {f : α → α} {p : α → Bool} (h : ∀ x, p (f x) = p x) (l : List α) :
    (l.map f).find? p = (l.find? p).map f := by
  rw [List.find?_map, show p ∘ f = p from funext h]

/-- Updating the elements that satisfy a test keeps a property of all elements that the update keeps. -/
theorem List.forall_mem_map_ite {α : Type _} {P : α → Prop} {p : α → Bool} {g : α → α} {l : List α}
    (h : ∀ a ∈ l, P a) (hg : ∀ a ∈ l, p a = true → P a → P (g a)) : ∀ b ∈ l.map fun a => if p a then g a else a, P b := by
  rw [List.forall_mem_map]
  intro a ha
  split
  · exact hg a ha ‹_› (h a ha)
  · exact h a ha

theorem List.inj_on_of_nodup_map {α β : Type _} {f : α → β} {l : List α} (h : (l.map f).Nodup) :
    ∀ ⦃a⦄, a ∈ l → ∀ ⦃b⦄, b ∈ l → f a = f b → a = b := by
  -- `Pairwise` relates an element to the later ones only; the relation wanted is symmetric, so it is given both ways round
  have hp : l.Pairwise (fun a b => f a ≠ f b) := List.pairwise_map.mp h
  exact List.Pairwise.forall_of_forall_of_flip (R := fun a b => f a = f b → a = b) (fun _ _ _ => rfl)
    (hp.imp fun h e => absurd e h) (hp.imp fun h e => absurd e.symm h)

theorem List.mem_map_filter_of_nodup {α β : Type _} {f : α → β} {p : α → Bool} {l : List α} (hnd : (l.map f).Nodup)
    {a : α} (ha : a ∈ l) : f a ∈ (l.filter p).map f ↔ p a = true := by
  constructor
  · intro h
    obtain ⟨b, hb, hfb⟩ := List.mem_map.mp h
    obtain ⟨hbl, hpb⟩ := List.mem_filter.mp hb
    rwa [← List.inj_on_of_nodup_map hnd hbl ha hfb]
  · exact fun h => List.mem_map_of_mem (List.mem_filter.mpr ⟨ha, h⟩)

theorem List.mem_foldl_filter_contains {α ι : Type _} [BEq α] [LawfulBEq α] {f : ι → List α} {es : List ι} {acc : List α} {x : α} :
    x ∈ es.foldl (fun acc e => acc.filter ((f e).contains ·)) acc ↔ x ∈ acc ∧ ∀ e ∈ es, x ∈ f e := by
  induction es generalizing acc with
  | nil => simp
  | cons e es ih => simp only [List.foldl_cons, ih, List.mem_filter, List.contains_iff_mem, List.forall_mem_cons, and_assoc]

theorem List.foldl_append_eq_flatMap {α ι : Type _} {f : ι → List α} {es : List ι} {acc : List α} :
    es.foldl (fun acc e => acc ++ f e) acc = acc ++ es.flatMap f := by
  induction es generalizing acc with
  | nil => simp
  | cons e es ih => simp only [List.foldl_cons, ih, List.flatMap_cons, List.append_assoc]

/-- Distinct elements outside `s`, followed by distinct elements outside both those and `s`, are distinct and outside `s`. -/
theorem List.nodup_append_of_fresh {α : Type _} {s l₁ l₂ : List α} (h₁ : l₁.Nodup ∧ ∀ a ∈ l₁, a ∉ s)
    (h₂ : l₂.Nodup ∧ ∀ a ∈ l₂, a ∉ l₁ ∧ a ∉ s) : (l₁ ++ l₂).Nodup ∧ ∀ a ∈ l₁ ++ l₂, a ∉ s := by
  refine ⟨List.nodup_append.mpr ⟨h₁.1, h₂.1, fun a ha b hb hab => (h₂.2 b hb).1 (hab ▸ ha)⟩, fun a ha => ?_⟩
  rcases List.mem_append.mp ha with ha | ha
  · exact h₁.2 a ha
  · exact (h₂.2 a ha).2

/-- If exactly one element of `l` satisfies `p`, any element of `l` that satisfies `p` is that one. -/
theorem List.filter_eq_singleton {α : Type _} {p : α → Bool} {a : α} {l : List α}
    (h1 : (l.filter p).length = 1) (ha : a ∈ l) (hp : p a = true) : l.filter p = [a] := by
  obtain ⟨x, hx⟩ := List.length_eq_one_iff.1 h1
  have : a ∈ l.filter p := List.mem_filter.2 ⟨ha, hp⟩
  rw [hx, List.mem_singleton] at this
  rw [hx, this]
