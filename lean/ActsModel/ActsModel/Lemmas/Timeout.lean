import ActsModel.Model.Timeout
import ActsModel.Lemmas.Basic

/-!
What the timeout machine of `Model/Timeout.lean` does in one step, and what the C19 monitor accepts, said in the same terms:
`step` fires, each once, exactly the keys `k` for which the event is a tick, the task is open, `k` is not flagged and a rule with
key `k` has reached its limit (`mem_step`, `step_nodup`); `monitor` accepts an observation iff its keys are, each once, exactly
those (`monitor_cons`, `Pass`). The property theorems built from these are in `Props/C19.lean`.
-/
namespace Acts.Tmo
open Acts.Gen

theorem due_iff (t : Timed) (now : Int) (r : Rule) : due t now r = true ↔ now - t.start ≥ r.secs * 1000 := by
  simp [due, timeoutFiresAtEqual, timeoutMillisPerSec]

theorem tickRules_cons (now : Int) (t : Timed) (r : Rule) (rs : List Rule) :
    tickRules now t (r :: rs) =
      if r.on ∉ t.fired ∧ due t now r = true then
        ((tickRules now { t with fired := r.on :: t.fired } rs).1, r.on :: (tickRules now { t with fired := r.on :: t.fired } rs).2)
      else tickRules now t rs := by
  simp only [tickRules, List.contains_iff_mem]
  split <;> simp [*]

/-- a tick changes nothing but the flags, to which it adds the keys it fires -/
theorem tickRules_fst (now : Int) (rs : List Rule) : ∀ t,
    (tickRules now t rs).1 = { t with fired := (tickRules now t rs).2.reverse ++ t.fired } := by
  induction rs with
  | nil => intro t; rfl
  | cons r rs ih =>
    intro t; rw [tickRules_cons]
    split
    · simp [ih { t with fired := r.on :: t.fired }]
    · exact ih t

/-- the keys a tick fires: those not flagged before for which some rule is due (a second rule with the same key finds the flag set) -/
theorem mem_tickRules (now : Int) (k : String) (rs : List Rule) : ∀ t,
    k ∈ (tickRules now t rs).2 ↔ k ∉ t.fired ∧ ∃ r ∈ rs, r.on = k ∧ due t now r = true := by
  induction rs with
  | nil => intro t; simp [tickRules]
  | cons r rs ih =>
    intro t; rw [tickRules_cons]
    split
    · next h =>
      have hd : ∀ x, due { t with fired := r.on :: t.fired } now x = due t now x := fun _ => rfl
      by_cases hk : k = r.on
      · simp [hk, h]
      · simp [ih, hd, hk, Ne.symm hk]
    · next h =>
      -- the head rule adds no key: `r.on = k` unflagged and due is what `h` excludes
      simp only [ih, List.mem_cons, exists_eq_or_imp, and_congr_right_iff, iff_or_self, and_imp]
      exact fun hk e hd => absurd ⟨e ▸ hk, hd⟩ h

theorem tickRules_nodup (now : Int) (rs : List Rule) : ∀ t, (tickRules now t rs).2.Nodup := by
  induction rs with
  | nil => intro t; exact List.nodup_nil
  | cons r rs ih =>
    intro t; rw [tickRules_cons]
    split
    · exact List.nodup_cons.mpr ⟨fun h => ((mem_tickRules ..).mp h).1 (List.mem_cons_self ..), ih _⟩
    · exact ih t

def Ev.isTick : Ev → Bool
  | .tick _ => true
  | .close => false

theorem step_tick (rules : List Rule) (t : Timed) (now : Int) :
    step rules t (.tick now) = if t.isOpen = true then tickRules now t rules else (t, []) := by
  simp [step, tickVisitsOnlyOpen]

/-- the state after an event: the start time stays, only `close` closes, the fired keys are flagged -/
theorem step_fst (rules : List Rule) (t : Timed) (e : Ev) :
    (step rules t e).1 = ⟨t.start, t.isOpen && e.isTick, (step rules t e).2.reverse ++ t.fired⟩ := by
  cases e with
  | close => simp [step, Ev.isTick]
  | tick now => rw [step_tick]; split <;> simp [tickRules_fst now rules t, Ev.isTick]

theorem step_start (rules : List Rule) (t : Timed) (e : Ev) : (step rules t e).1.start = t.start := by rw [step_fst]

theorem step_isOpen (rules : List Rule) (t : Timed) (e : Ev) : (step rules t e).1.isOpen = (t.isOpen && e.isTick) := by
  rw [step_fst]

theorem step_fired (rules : List Rule) (t : Timed) (e : Ev) :
    (step rules t e).1.fired = (step rules t e).2.reverse ++ t.fired := by
  rw [step_fst]

theorem mem_step (rules : List Rule) (t : Timed) (e : Ev) (k : String) : k ∈ (step rules t e).2 ↔
    ∃ now, e = .tick now ∧ t.isOpen = true ∧ k ∉ t.fired ∧ ∃ r ∈ rules, r.on = k ∧ now - t.start ≥ r.secs * 1000 := by
  cases e with
  | close => exact ⟨nofun, fun ⟨_, h, _⟩ => nomatch h⟩
  | tick now =>
    rw [step_tick]; split
    · next ho => simp only [mem_tickRules, due_iff, ho, Ev.tick.injEq, exists_eq_left', true_and]
    · next ho => simp [ho]

theorem step_nodup (rules : List Rule) (t : Timed) (e : Ev) : (step rules t e).2.Nodup := by
  cases e with
  | close => exact List.nodup_nil
  | tick now =>
    rw [step_tick]; split
    · exact tickRules_nodup now rules t
    · exact List.nodup_nil

theorem run_keys_cons (rules : List Rule) (t : Timed) (e : Ev) (es : List Ev) :
    (run rules t (e :: es)).2.map (·.1) = (step rules t e).2 ++ (run rules (step rules t e).1 es).2.map (·.1) := by
  simp [run, Function.comp_def]

theorem hasDup_eq_false (ks : List String) : hasDup ks = false ↔ ks.Nodup := by
  induction ks with
  | nil => simp [hasDup]
  | cons k ks ih => simp [hasDup, ih]

/-- what `monitor` requires of the keys `fs` observed at the event `e` in the state `m`: they are, each once, exactly the keys that
`step` fires from the corresponding state (`mem_step`, `step_nodup`) -/
structure Pass (rules : List Rule) (start : Int) (m : Mon) (e : Ev) (fs : List String) : Prop where
  nodup : fs.Nodup
  mem : ∀ k, k ∈ fs ↔
    ∃ now, e = .tick now ∧ m.isOpen = true ∧ k ∉ m.fired ∧ ∃ r ∈ rules, r.on = k ∧ now - start ≥ r.secs * 1000

section
variable {rules : List Rule} {start : Int} {m : Mon} {e : Ev} {fs : List String}

/-- nothing fires at an event after which the task is closed -/
theorem Pass.eq_nil (h : Pass rules start m e fs) (hc : (m.isOpen && e.isTick) = false) : fs = [] := by
  refine List.eq_nil_iff_forall_not_mem.mpr fun k hk => ?_
  obtain ⟨now, rfl, ho, -⟩ := (h.mem k).mp hk
  simp [ho, Ev.isTick] at hc

theorem pass_close : Pass rules start m .close fs ↔ fs = [] :=
  ⟨fun h => h.eq_nil (Bool.and_false _), fun h => ⟨h ▸ List.nodup_nil, by simp [h]⟩⟩

/-- `Pass` at a tick, clause by clause as `monitor` tests it: fires-after-terminal, fires-twice (an earlier tick, this tick),
fires-early, does-not-fire-within-one-tick -/
theorem pass_tick {now : Int} : Pass rules start m (.tick now) fs ↔
    (m.isOpen = false → fs = []) ∧ (∀ k ∈ fs, k ∉ m.fired) ∧ fs.Nodup ∧
    (∀ k ∈ fs, ∃ r ∈ rules, r.on = k ∧ now - start ≥ r.secs * 1000) ∧
    (m.isOpen = true → ∀ r ∈ rules, r.on ∉ m.fired → now - start ≥ r.secs * 1000 → r.on ∈ fs) := by
  constructor
  · intro h
    have hm : ∀ k ∈ fs, m.isOpen = true ∧ k ∉ m.fired ∧ ∃ r ∈ rules, r.on = k ∧ now - start ≥ r.secs * 1000 := fun k hk => by
      obtain ⟨_, ⟨rfl⟩, h⟩ := (h.mem k).mp hk
      exact h
    exact ⟨fun hc => h.eq_nil (by simp [hc]), fun k hk => (hm k hk).2.1, h.nodup, fun k hk => (hm k hk).2.2,
      fun ho r hr hnf hd => (h.mem _).mpr ⟨now, rfl, ho, hnf, r, hr, rfl, hd⟩⟩
  · rintro ⟨h1, h2, h3, h4, h5⟩
    refine ⟨h3, fun k => ⟨fun hk => ⟨now, rfl, ?_, h2 k hk, h4 k hk⟩, ?_⟩⟩
    · cases ho : m.isOpen
      · exact absurd (h1 ho ▸ hk) List.not_mem_nil
      · rfl
    · rintro ⟨_, ⟨rfl⟩, ho, hnf, r, hr, rfl, hd⟩
      exact h5 ho r hr hnf hd

end

/-- the monitor accepts a history iff its first observation passes and it accepts the rest from the next state -/
theorem monitor_cons (rules : List Rule) (start : Int) (m : Mon) (i : Nat) (e : Ev) (fs : List String) (rest : List ObsEv) :
    monitor rules start m i ((e, fs) :: rest) = none ↔
      Pass rules start m e fs ∧ monitor rules start ⟨m.isOpen && e.isTick, fs ++ m.fired⟩ (i + 1) rest = none := by
  cases e with
  | close =>
    have hfs : (¬(!fs.isEmpty) = true) ↔ fs = [] := by simp
    simp only [monitor, ite_some_eq_none, pass_close, hfs]
    -- `monitor` goes on with `m.fired`, which is `fs ++ m.fired` when `fs = []`
    exact and_congr_right fun h => by simp [h, Ev.isTick]
  | tick now =>
    simp only [monitor, ite_some_eq_none, pass_tick, Ev.isTick, Bool.and_true, and_assoc]
    -- left the five guards, right the five clauses
    simp [hasDup_eq_false]

/-- all the firings of an observed history, in order -/
def firings (obs : List ObsEv) : List String := obs.flatMap (·.2)

theorem firings_cons (o : ObsEv) (obs : List ObsEv) : firings (o :: obs) = o.2 ++ firings obs := List.flatMap_cons

/-- **once**: over a whole accepted history no rule key fires twice, and none that had fired before -/
theorem monitor_once (rules : List Rule) (start : Int) (obs : List ObsEv) : ∀ (m : Mon) (i : Nat),
    monitor rules start m i obs = none → (firings obs).Nodup ∧ ∀ k ∈ firings obs, k ∉ m.fired := by
  induction obs with
  | nil => intro m i _; simp [firings]
  | cons o rest ih =>
    intro m i h
    obtain ⟨hp, h⟩ := (monitor_cons ..).mp h
    rw [firings_cons]
    refine List.nodup_append_of_fresh ⟨hp.nodup, fun k hk => ?_⟩ ?_
    · obtain ⟨-, -, -, hnf, -⟩ := (hp.mem k).mp hk
      exact hnf
    · simpa only [List.mem_append, not_or] using ih _ _ h

/-- **never early**: every firing of an accepted history happens at a tick at which a rule with that key has reached its limit -/
theorem monitor_never_early (rules : List Rule) (start : Int) (obs : List ObsEv) : ∀ (m : Mon) (i : Nat),
    monitor rules start m i obs = none →
    ∀ e fs, (e, fs) ∈ obs → ∀ k ∈ fs, ∃ now, e = .tick now ∧ ∃ r ∈ rules, r.on = k ∧ now - start ≥ r.secs * 1000 := by
  induction obs with
  | nil => intro m i _ e fs hin; cases hin
  | cons o rest ih =>
    intro m i h e fs hin k hk
    obtain ⟨hp, h⟩ := (monitor_cons ..).mp h
    rcases List.mem_cons.mp hin with rfl | hin
    · obtain ⟨now, he, -, -, hr⟩ := (hp.mem k).mp hk
      exact ⟨now, he, hr⟩
    · exact ih _ _ h e fs hin k hk

/-- **only for open tasks**: once the monitor knows the task closed, an accepted history has no firing at all -/
theorem monitor_closed_silent (rules : List Rule) (start : Int) (obs : List ObsEv) : ∀ (m : Mon) (i : Nat),
    monitor rules start m i obs = none → m.isOpen = false → firings obs = [] := by
  induction obs with
  | nil => intro m i _ _; rfl
  | cons o rest ih =>
    intro m i h hc
    obtain ⟨hp, h⟩ := (monitor_cons ..).mp h
    rw [firings_cons, hp.eq_nil (by simp [hc]), ih _ _ h (by simp [hc])]; rfl

/-- **not after the task has closed**: in an accepted history nothing fires at the event that closes the task nor at any later event -/
theorem monitor_silent_after_close (rules : List Rule) (start : Int) (pre : List ObsEv) : ∀ (m : Mon) (i : Nat) (fs0 : List String)
    (post : List ObsEv), monitor rules start m i (pre ++ (.close, fs0) :: post) = none → fs0 = [] ∧ firings post = [] := by
  induction pre with
  | nil =>
    intro m i fs0 post h
    obtain ⟨hp, h⟩ := (monitor_cons ..).mp h
    exact ⟨hp.eq_nil (Bool.and_false _), monitor_closed_silent rules start post _ _ h (Bool.and_false _)⟩
  | cons o pre ih => intro m i fs0 post h; exact ih _ _ fs0 post ((monitor_cons ..).mp h).2

end Acts.Tmo
