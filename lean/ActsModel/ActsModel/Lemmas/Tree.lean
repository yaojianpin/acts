import ActsModel.Model.Tree

/-!
The id side of the tree builder (`Model/Tree.lean`, C20). `ids*` lists the ids the builder visits; `checkIds` is its bookkeeping
(register an id, fail on a repeat) in isolation. The one statement about the ten mutually recursive builder functions is
`build*_spec : Spec (ids* x) built (build* … built x)`: the builder fails or succeeds exactly as `checkIds built ids` does, and on
success its nodes carry `ids`. It is composed from the rules `SpecWith.pure/bind/map/register` and `Spec.append`, which follow the
shapes the builder functions are written in. `build*_ids` (`Good`) and `build*_check` (`sndOf … = checkIds …`) are the two
projections of `build*_spec`, kept under the names the property is stated with; proofs use `build*_spec`.
-/
namespace Acts.Tree
open Acts

/-! declared ids in the order the builder visits them (a step with an explicit `next` does not get its branches built) -/
mutual
def idsStep : Step → List String
  | .mk sid _ _ _ sNext _ _ sBranches sActs sCatches sTimeouts _ =>
    sid :: ((if sNext.isNone then idsBranches sBranches else []) ++ idsActs sActs ++ idsCatches sCatches ++ idsTimeouts sTimeouts)
def idsSteps : List Step → List String
  | [] => []
  | s :: rest => idsStep s ++ idsSteps rest
def idsBranch : Branch → List String
  | .mk bid _ _ _ _ _ _ _ bSteps => bid :: idsSteps bSteps
def idsBranches : List Branch → List String
  | [] => []
  | b :: rest => idsBranch b ++ idsBranches rest
def idsAct : Act → List String
  | .mk aid _ _ _ _ _ _ _ _ _ _ _ aCatches aTimeouts => aid :: (idsCatches aCatches ++ idsTimeouts aTimeouts)
def idsActs : List Act → List String
  | [] => []
  | a :: rest => idsAct a ++ idsActs rest
def idsCatch : Catch → List String
  | .mk _ cSteps => idsSteps cSteps
def idsCatches : List Catch → List String
  | [] => []
  | c :: rest => idsCatch c ++ idsCatches rest
def idsTimeout : Timeout → List String
  | .mk _ tSteps => idsSteps tSteps
def idsTimeouts : List Timeout → List String
  | [] => []
  | t :: rest => idsTimeout t ++ idsTimeouts rest
end

/-- what a successful build returns: the nodes carry exactly the declared ids, in visiting order, and the set of
built ids grows by exactly them -/
def Good (ids : List String) (built : Built) (r : Except BuildErr (List Node × Built)) : Prop :=
  ∀ nodes built', r = .ok (nodes, built') → nodes.map (·.id) = ids ∧ built' = built ++ ids

/-- the id bookkeeping of `NodeTree::make` in isolation -/
def checkIds : Built → List String → Except BuildErr Built
  | b, [] => .ok b
  | b, id :: ids => if b.contains id then .error (.dup id) else checkIds (b ++ [id]) ids

def sndOf (r : Except BuildErr (List Node × Built)) : Except BuildErr Built :=
  match r with
  | .ok (_, b) => .ok b
  | .error e => .error e

theorem sndOf_ok {r : Except BuildErr (List Node × Built)} {n : List Node} {b : Built} (h : r = .ok (n, b)) : sndOf r = .ok b := by
  subst h; rfl
theorem sndOf_error {r : Except BuildErr (List Node × Built)} {e : BuildErr} (h : r = .error e) : sndOf r = .error e := by
  subst h; rfl

theorem checkIds_append (xs ys : List String) (b : Built) :
    checkIds b (xs ++ ys) = match checkIds b xs with | .ok b' => checkIds b' ys | .error e => .error e := by
  induction xs generalizing b with
  | nil => rfl
  | cons x xs ih => simp only [List.cons_append, checkIds]; split <;> simp [ih]

/-- a successful check appends the ids; it succeeds exactly when no id repeats or is there already -/
theorem checkIds_eq_ok_iff {b b' : Built} {ids : List String} :
    checkIds b ids = .ok b' ↔ b' = b ++ ids ∧ ids.Nodup ∧ ∀ x ∈ ids, x ∉ b := by
  induction ids generalizing b with
  | nil => simp [checkIds, eq_comm]
  | cons x xs ih =>
    rw [checkIds]
    by_cases hx : x ∈ b
    · simp [hx]
    · -- `x` is registered, then the rest is checked against `b ++ [x]`: nothing of `xs` is `x` or in `b`
      rw [if_neg (by simpa using hx), ih]
      simp only [List.append_assoc, List.singleton_append, List.mem_append, List.mem_singleton, not_or, List.nodup_cons,
        List.forall_mem_cons]
      constructor
      · rintro ⟨rfl, hnd, h⟩
        exact ⟨rfl, ⟨fun hm => (h x hm).2 rfl, hnd⟩, ⟨hx, fun y hy => (h y hy).1⟩⟩
      · rintro ⟨rfl, ⟨hxs, hnd⟩, -, h⟩
        exact ⟨rfl, hnd, fun y hy => ⟨h y hy, fun hyx => hxs (hyx ▸ hy)⟩⟩

theorem checkIds_eq_error {b : Built} {ids : List String} {e : BuildErr} (h : checkIds b ids = .error e) :
    ∃ id ∈ ids, e = .dup id := by
  induction ids generalizing b with
  | nil => cases h
  | cons x xs ih =>
    rw [checkIds] at h
    split at h
    · exact ⟨x, List.mem_cons_self, by cases h; rfl⟩
    · obtain ⟨id, hid, he⟩ := ih h
      exact ⟨id, List.mem_cons_of_mem _ hid, he⟩

/-- `r` fails or succeeds exactly as `checkIds built ids` does, and on success its nodes satisfy `P` -/
def SpecWith (P : List Node → Prop) (ids : List String) (built : Built) (r : Except BuildErr (List Node × Built)) : Prop :=
  match r with
  | .ok (nodes, b) => P nodes ∧ checkIds built ids = .ok b
  | .error e => checkIds built ids = .error e

/-- what every builder function satisfies: on the id side it is `checkIds`, and the nodes of a successful build carry
exactly `ids`, in this order -/
abbrev Spec (ids : List String) := SpecWith (fun nodes => nodes.map (·.id) = ids) ids

section
variable {P Q : List Node → Prop} {ids ids₁ ids₂ : List String} {built : Built} {r : Except BuildErr (List Node × Built)}

/-! The rules `bind`, `map`, `register` and `append` conclude with the `match`/`if` forms in which the builder functions are
written, so that each builder equation is an application of them. Their premises are arrows and not named binders: `match r`
would generalise a hypothesis about `r` that stands in the context. -/

theorem SpecWith.pure {nodes : List Node} (h : P nodes) : SpecWith P [] built (.ok (nodes, built)) := ⟨h, rfl⟩

theorem SpecWith.bind {k : List Node → Built → Except BuildErr (List Node × Built)} :
    SpecWith Q ids₁ built r → (∀ n b, Q n → SpecWith P ids₂ b (k n b)) →
    SpecWith P (ids₁ ++ ids₂) built (match r with | .error e => .error e | .ok (n, b) => k n b) := by
  intro h hk
  unfold SpecWith at h ⊢
  rw [checkIds_append]
  cases r with
  | error e => simp only [h]
  | ok p => simp only [h.2]; exact hk _ _ h.1

theorem SpecWith.map {f : List Node → List Node} :
    SpecWith Q ids built r → (∀ n, Q n → P (f n)) →
    SpecWith P ids built (match r with | .error e => .error e | .ok (n, b) => .ok (f n, b)) := by
  intro h hf
  cases r with
  | error e => exact h
  | ok p => exact ⟨hf _ h.1, h.2⟩

theorem SpecWith.register {id : String} (h : SpecWith P ids (built ++ [id]) r) :
    SpecWith P (id :: ids) built (if built.contains id then .error (.dup id) else r) := by
  unfold SpecWith; rw [checkIds]
  by_cases hc : built.contains id = true
  · simp only [if_pos hc]
  · simp only [if_neg hc]; exact h

theorem SpecWith.elim (h : SpecWith P ids built r) :
    (∃ e, r = .error e ∧ checkIds built ids = .error e) ∨
    ∃ n b, r = .ok (n, b) ∧ P n ∧ checkIds built ids = .ok b := by
  cases r with
  | error e => exact .inl ⟨e, rfl, h⟩
  | ok p => exact .inr ⟨_, _, rfl, h⟩

theorem SpecWith.check (h : SpecWith P ids built r) : sndOf r = checkIds built ids := by
  cases r with
  | error e => exact h.symm
  | ok p => exact h.2.symm

/-- one element, then the rest of the list -/
theorem Spec.append {k : Built → Except BuildErr (List Node × Built)} :
    Spec ids₁ built r → (∀ b, Spec ids₂ b (k b)) →
    Spec (ids₁ ++ ids₂) built (match r with
      | .error e => .error e
      | .ok (n₁, b₁) => match k b₁ with
        | .error e => .error e
        | .ok (n₂, b₂) => .ok (n₁ ++ n₂, b₂)) :=
  fun h₁ h₂ => .bind h₁ fun _ _ hn₁ => .map (h₂ _) fun _ hn₂ => by rw [List.map_append, hn₁, hn₂]

theorem Spec.good (h : Spec ids built r) : Good ids built r := by
  rintro nodes b rfl
  exact ⟨h.1, (checkIds_eq_ok_iff.mp h.2).1⟩

end

mutual
theorem buildStep_spec (parent : String) (level : Nat) (isFirst : Bool) (prevId nextSibling : Option String)
    (built : Built) (s : Step) : Spec (idsStep s) built (buildStep parent level isFirst prevId nextSibling built s) := by
  cases s with
  | mk sid sname stag scond sNext sin sout sBranches sActs sCatches sTimeouts ssetup =>
    have hB : Spec (if sNext.isNone then idsBranches sBranches else []) (built ++ [sid])
        (if sNext.isNone then buildBranches sid (level + 1) (built ++ [sid]) sBranches else .ok ([], built ++ [sid])) := by
      split
      · exact buildBranches_spec ..
      · exact .pure rfl
    simp only [buildStep, idsStep, List.append_assoc]
    exact .register <| .bind hB fun bn _ hb => .bind (buildActs_spec ..) fun an _ ha =>
      .bind (buildCatches_spec ..) fun cn _ hc => .map (buildTimeouts_spec ..) fun tn ht => by simp only [List.map_cons, List.map_append, hb, ha, hc, ht]
theorem buildSteps_spec (parent : String) (level : Nat) (isFirst : Bool) (prevId : Option String) (built : Built)
    (ss : List Step) : Spec (idsSteps ss) built (buildSteps parent level isFirst prevId built ss) := by
  cases ss with
  | nil => exact .pure rfl
  | cons s rest =>
    simp only [buildSteps, idsSteps]
    exact .append (buildStep_spec ..) fun _ => buildSteps_spec ..
theorem buildBranch_spec (parent : String) (level : Nat) (built : Built) (b : Branch) :
    Spec (idsBranch b) built (buildBranch parent level built b) := by
  cases b with
  | mk bid bname btag bcond belse bneeds bin bout bSteps =>
    simp only [buildBranch, idsBranch]
    exact .register <| .map (buildSteps_spec ..) fun sn hs => by rw [List.map_cons, hs]
theorem buildBranches_spec (parent : String) (level : Nat) (built : Built) (bs : List Branch) :
    Spec (idsBranches bs) built (buildBranches parent level built bs) := by
  cases bs with
  | nil => exact .pure rfl
  | cons b rest =>
    simp only [buildBranches, idsBranches]
    exact .append (buildBranch_spec ..) fun _ => buildBranches_spec ..
theorem buildAct_spec (parent : String) (level : Nat) (isFirst : Bool) (prevId nextSibling : Option String)
    (built : Built) (a : Act) : Spec (idsAct a) built (buildAct parent level isFirst prevId nextSibling built a) := by
  cases a with
  | mk aid aname atag akey auses acond aon aparams aopts ain aout asetup aCatches aTimeouts =>
    simp only [buildAct, idsAct]
    exact .register <| .bind (buildCatches_spec ..) fun cn _ hc => .map (buildTimeouts_spec ..) fun tn ht => by rw [List.map_cons, List.map_append, hc, ht]
theorem buildActs_spec (parent : String) (level : Nat) (isFirst : Bool) (prevId : Option String) (built : Built)
    (as : List Act) : Spec (idsActs as) built (buildActs parent level isFirst prevId built as) := by
  cases as with
  | nil => exact .pure rfl
  | cons a rest =>
    simp only [buildActs, idsActs]
    exact .append (buildAct_spec ..) fun _ => buildActs_spec ..
theorem buildCatch_spec (owner : String) (level : Nat) (built : Built) (c : Catch) :
    Spec (idsCatch c) built (buildCatch owner level built c) := by
  cases c with
  | mk on cSteps => simp only [buildCatch, idsCatch]; exact buildSteps_spec ..
theorem buildCatches_spec (owner : String) (level : Nat) (built : Built) (cs : List Catch) :
    Spec (idsCatches cs) built (buildCatches owner level built cs) := by
  cases cs with
  | nil => exact .pure rfl
  | cons c rest =>
    simp only [buildCatches, idsCatches]
    exact .append (buildCatch_spec ..) fun _ => buildCatches_spec ..
theorem buildTimeout_spec (owner : String) (level : Nat) (built : Built) (t : Timeout) :
    Spec (idsTimeout t) built (buildTimeout owner level built t) := by
  cases t with
  | mk on tSteps => simp only [buildTimeout, idsTimeout]; exact buildSteps_spec ..
theorem buildTimeouts_spec (owner : String) (level : Nat) (built : Built) (ts : List Timeout) :
    Spec (idsTimeouts ts) built (buildTimeouts owner level built ts) := by
  cases ts with
  | nil => exact .pure rfl
  | cons t rest =>
    simp only [buildTimeouts, idsTimeouts]
    exact .append (buildTimeout_spec ..) fun _ => buildTimeouts_spec ..
end

theorem buildStep_ids (parent : String) (level : Nat) (isFirst : Bool) (prevId nextSibling : Option String)
    (built : Built) (s : Step) : Good (idsStep s) built (buildStep parent level isFirst prevId nextSibling built s) :=
  (buildStep_spec ..).good
theorem buildSteps_ids (parent : String) (level : Nat) (isFirst : Bool) (prevId : Option String) (built : Built)
    (ss : List Step) : Good (idsSteps ss) built (buildSteps parent level isFirst prevId built ss) :=
  (buildSteps_spec ..).good
theorem buildBranch_ids (parent : String) (level : Nat) (built : Built) (b : Branch) :
    Good (idsBranch b) built (buildBranch parent level built b) :=
  (buildBranch_spec ..).good
theorem buildBranches_ids (parent : String) (level : Nat) (built : Built) (bs : List Branch) :
    Good (idsBranches bs) built (buildBranches parent level built bs) :=
  (buildBranches_spec ..).good
theorem buildAct_ids (parent : String) (level : Nat) (isFirst : Bool) (prevId nextSibling : Option String)
    (built : Built) (a : Act) : Good (idsAct a) built (buildAct parent level isFirst prevId nextSibling built a) :=
  (buildAct_spec ..).good
theorem buildActs_ids (parent : String) (level : Nat) (isFirst : Bool) (prevId : Option String) (built : Built)
    (as : List Act) : Good (idsActs as) built (buildActs parent level isFirst prevId built as) :=
  (buildActs_spec ..).good
theorem buildCatch_ids (owner : String) (level : Nat) (built : Built) (c : Catch) :
    Good (idsCatch c) built (buildCatch owner level built c) :=
  (buildCatch_spec ..).good
theorem buildCatches_ids (owner : String) (level : Nat) (built : Built) (cs : List Catch) :
    Good (idsCatches cs) built (buildCatches owner level built cs) :=
  (buildCatches_spec ..).good
theorem buildTimeout_ids (owner : String) (level : Nat) (built : Built) (t : Timeout) :
    Good (idsTimeout t) built (buildTimeout owner level built t) :=
  (buildTimeout_spec ..).good
theorem buildTimeouts_ids (owner : String) (level : Nat) (built : Built) (ts : List Timeout) :
    Good (idsTimeouts ts) built (buildTimeouts owner level built ts) :=
  (buildTimeouts_spec ..).good

theorem buildStep_check (parent : String) (level : Nat) (isFirst : Bool) (prevId nextSibling : Option String)
    (built : Built) (s : Step) :
    sndOf (buildStep parent level isFirst prevId nextSibling built s) = checkIds built (idsStep s) :=
  (buildStep_spec ..).check
theorem buildSteps_check (parent : String) (level : Nat) (isFirst : Bool) (prevId : Option String) (built : Built)
    (ss : List Step) : sndOf (buildSteps parent level isFirst prevId built ss) = checkIds built (idsSteps ss) :=
  (buildSteps_spec ..).check
theorem buildBranch_check (parent : String) (level : Nat) (built : Built) (b : Branch) :
    sndOf (buildBranch parent level built b) = checkIds built (idsBranch b) :=
  (buildBranch_spec ..).check
theorem buildBranches_check (parent : String) (level : Nat) (built : Built) (bs : List Branch) :
    sndOf (buildBranches parent level built bs) = checkIds built (idsBranches bs) :=
  (buildBranches_spec ..).check
theorem buildAct_check (parent : String) (level : Nat) (isFirst : Bool) (prevId nextSibling : Option String)
    (built : Built) (a : Act) :
    sndOf (buildAct parent level isFirst prevId nextSibling built a) = checkIds built (idsAct a) :=
  (buildAct_spec ..).check
theorem buildActs_check (parent : String) (level : Nat) (isFirst : Bool) (prevId : Option String) (built : Built)
    (as : List Act) : sndOf (buildActs parent level isFirst prevId built as) = checkIds built (idsActs as) :=
  (buildActs_spec ..).check
theorem buildCatch_check (owner : String) (level : Nat) (built : Built) (c : Catch) :
    sndOf (buildCatch owner level built c) = checkIds built (idsCatch c) :=
  (buildCatch_spec ..).check
theorem buildCatches_check (owner : String) (level : Nat) (built : Built) (cs : List Catch) :
    sndOf (buildCatches owner level built cs) = checkIds built (idsCatches cs) :=
  (buildCatches_spec ..).check
theorem buildTimeout_check (owner : String) (level : Nat) (built : Built) (t : Timeout) :
    sndOf (buildTimeout owner level built t) = checkIds built (idsTimeout t) :=
  (buildTimeout_spec ..).check
theorem buildTimeouts_check (owner : String) (level : Nat) (built : Built) (ts : List Timeout) :
    sndOf (buildTimeouts owner level built ts) = checkIds built (idsTimeouts ts) :=
  (buildTimeouts_spec ..).check

end Acts.Tree
