import ActsModel.Model.Expr
import ActsModel.Lemmas.Basic

/-!
`Vars` (`Model/Expr.lean`) as a finite map: what `get` and `has` see after a `set`.
-/
namespace Acts

/-- `Vars.set` behaves as a map update, wherever the sorted insert puts the entry -/
theorem Vars.get_set (vs : Vars) (k : String) (v : Json) (k' : String) :
    Vars.get (Vars.set vs k v) k' = if k' = k then some v else Vars.get vs k' := by
  induction vs with
  | nil => simp [Vars.set, Vars.get, List.lookup_cons_eq_ite]
  | cons p rest ih =>
    obtain ⟨k0, v0⟩ := p
    simp only [Vars.get] at ih
    simp only [Vars.set, Vars.get]
    split
    · simp_all [List.lookup_cons_eq_ite]
    · split
      · simp [List.lookup_cons_eq_ite]
      · -- the entry goes further back: `k ≠ k0`, so the tests for `k0` and for `k` commute
        simp only [List.lookup_cons_eq_ite, ih]
        split <;> split <;> simp_all

theorem Vars.get_set_same (vs : Vars) (k : String) (v : Json) : Vars.get (Vars.set vs k v) k = some v := by
  simp [Vars.get_set]

theorem Vars.get_set_other (vs : Vars) (k k' : String) (v : Json) (h : k' ≠ k) :
    Vars.get (Vars.set vs k v) k' = Vars.get vs k' := by
  simp [Vars.get_set, h]

theorem Vars.has_iff (vs : Vars) (k : String) : Vars.has vs k = true ↔ (Vars.get vs k).isSome = true := by
  simp [Vars.has, Vars.get, @eq_comm _ k]

end Acts
