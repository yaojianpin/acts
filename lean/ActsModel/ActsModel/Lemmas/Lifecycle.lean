import ActsModel.Spec.Lifecycle

/-!
Facts about `stage` and `legal` (`Spec/Lifecycle.lean`) that the lifecycle, completion and admission properties share.
-/
namespace Acts.Spec
open Acts.Gen

/-- K1: the generated `is_completed` class is stage 3 of the property text -/
theorem isCompleted_iff_stage (s : TaskState) : s.isCompleted = true ↔ stage s = 3 := by
  cases s <;> decide

theorem stage_le (s : TaskState) : stage s ≤ 3 := by
  cases s <;> decide

theorem stage_lt_of_not_completed {s : TaskState} (h : s.isCompleted = false) : stage s < 3 :=
  Nat.lt_of_le_of_ne (stage_le s) fun h3 => by rw [(isCompleted_iff_stage s).mpr h3] at h; cases h

theorem legal_iff {o n : TaskState} :
    legal o n = true ↔ n = o ∨ stage o < stage n ∨ o = .ready ∧ (n = .pending ∨ n = .interrupt) := by
  simp only [legal, Bool.or_eq_true, Bool.and_eq_true, beq_iff_eq, decide_eq_true_eq, or_assoc]

theorem legal_of_stage_lt {o n : TaskState} (h : stage o < stage n) : legal o n = true :=
  legal_iff.mpr (.inr (.inl h))

/-- legality is monotone in the stage: the sideways moves of `ready` stay in stage 1 -/
theorem stage_le_of_legal {o n : TaskState} (h : legal o n = true) : stage o ≤ stage n := by
  rcases legal_iff.mp h with rfl | h | ⟨rfl, rfl | rfl⟩
  · exact Nat.le_refl _
  · exact Nat.le_of_lt h
  · exact Nat.le_refl 1
  · exact Nat.le_refl 1

/-- nothing leaves stage 3: no later stage exists, and `ready` (the one state with a legal sideways move) is stage 1 -/
theorem eq_of_legal_of_terminal {o n : TaskState} (ho : stage o = 3) (h : legal o n = true) : n = o := by
  rcases legal_iff.mp h with h | h | ⟨rfl, _⟩
  · exact h
  · exact absurd (ho ▸ h) (Nat.not_lt.mpr (stage_le n))
  · cases ho

end Acts.Spec
