import ActsModel.Spec.Needs
import ActsModel.Lemmas.Monitor

/-!
The C04 `needs` monitor (`Spec/Needs.lean`) as an instance of the first-violation fold of `Lemmas/Monitor.lean`.
-/
namespace Acts.Spec
open Acts.Gen

theorem needsMonitor_eq (needs : List (String × List String)) (ts : List NTask) (i : Nat) (evs : List NEv) :
    needsMonitor needs ts i evs = Mon.first (needsStep needs) ts i evs := by
  induction evs generalizing ts i with
  | nil => rfl
  | cons e es ih => rw [needsMonitor, Mon.first, ← ih]; rcases needsStep needs ts i e with ⟨_, _ | _⟩ <;> rfl

theorem needsRun_eq (needs : List (String × List String)) (ts : List NTask) (i : Nat) (evs : List NEv) :
    needsRun needs ts i evs = Mon.run (needsStep needs) ts i evs := by
  induction evs generalizing ts i with
  | nil => rfl
  | cons e es ih => rw [needsRun, Mon.run, ih]

/-- what the monitor has checked when it lets a needs-branch leave `pending` -/
theorem needsStep_pass (needs : List (String × List String)) (ts : List NTask) (i tid : Nat) (t : NTask) (ns : List String)
    (ht : ts.find? (·.tid == tid) = some t) (hn : needs.lookup t.nid = some ns)
    (h : (needsStep needs ts i (.tr tid .pending .running)).2 = none) :
    ∃ s ∈ neededSiblings ts t ns, s.state.isCompleted = true := by
  simpa [needsStep, ht, hn, apply_ite Prod.snd] using h

end Acts.Spec
