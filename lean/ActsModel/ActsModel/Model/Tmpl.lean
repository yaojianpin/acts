import ActsModel.Gen.Value

/-!
`utils/convert.rs::get_exprs`: leftmost scan for `\{\{(.*?)\}\}` (lazy) or `\{\{(.*)\}\}` (greedy);
`.` does not match a newline. Strings are `List Char`; offsets are in characters.
-/
namespace Acts.Tmpl
open Acts.Gen

/-- number of characters before the first `}}` on the current line -/
def findClose : List Char → Option Nat
  | [] => none
  | c :: cs =>
    if c = '}' ∧ cs.head? = some '}' then some 0
    else if c = '\n' then none
    else (findClose cs).map (· + 1)

/-- number of characters before the last `}}` on the current line -/
def findCloseLast : List Char → Option Nat
  | [] => none
  | c :: cs =>
    if c = '\n' then none
    else match findCloseLast cs with
      | some n => some (n + 1)
      | none => if c = '}' ∧ cs.head? = some '}' then some 0 else none

def close (cs : List Char) : Option Nat := if templateGreedy then findCloseLast cs else findClose cs

theorem findClose_le (cs : List Char) (n : Nat) (h : findClose cs = some n) : n + 2 ≤ cs.length := by
  fun_induction findClose cs generalizing n with
  | case1 => simp at h
  | case2 c cs hc => cases h; cases cs <;> simp_all   -- `}}` found: `cs` begins with the second brace
  | case3 => simp at h
  | case4 c cs _ _ ih =>
    obtain ⟨m, hm, rfl⟩ := Option.map_eq_some_iff.1 h
    have := ih m hm
    simp; omega

theorem findCloseLast_le (cs : List Char) (n : Nat) (h : findCloseLast cs = some n) : n + 2 ≤ cs.length := by
  fun_induction findCloseLast cs generalizing n with
  | case1 => simp at h
  | case2 => simp at h
  | case3 c cs _ m hm ih => cases h; have := ih m hm; simp; omega   -- a later `}}` in `cs`
  | case4 c cs _ _ hc => cases h; cases cs <;> simp_all              -- none later, `}}` here
  | case5 => simp at h

theorem close_le (cs : List Char) (n : Nat) (h : close cs = some n) : n + 2 ≤ cs.length := by
  unfold close at h
  split at h
  · exact findCloseLast_le cs n h
  · exact findClose_le cs n h

/-- spans `(start, end)` of the templates found from offset `pos` -/
def scan (pos : Nat) (cs : List Char) : List (Nat × Nat) :=
  match cs with
  | [] => []
  | c :: rest =>
    if c = '{' ∧ rest.head? = some '{' then
      match h : close rest.tail with
      | some n => (pos, pos + n + 4) :: scan (pos + n + 4) (rest.tail.drop (n + 2))
      | none => scan (pos + 1) rest
    else scan (pos + 1) rest
termination_by cs.length
decreasing_by
  · have := close_le rest.tail n h
    simp only [List.length_drop, List.length_tail, List.length_cons] at this ⊢
    omega
  · simp
  · simp

theorem scan_nil (pos : Nat) : scan pos [] = [] := by rw [scan]

theorem scan_skip (pos : Nat) (c : Char) (rest : List Char) (h : c ≠ '{') : scan pos (c :: rest) = scan (pos + 1) rest := by
  rw [scan, if_neg (fun hc => h hc.1)]

theorem scan_open (pos : Nat) (rest : List Char) (n : Nat) (h : close rest = some n) :
    scan pos ('{' :: '{' :: rest) = (pos, pos + n + 4) :: scan (pos + n + 4) (rest.drop (n + 2)) := by
  rw [scan]
  simp only [List.head?_cons, and_self, ↓reduceIte, List.tail_cons]
  split <;> simp_all

end Acts.Tmpl
